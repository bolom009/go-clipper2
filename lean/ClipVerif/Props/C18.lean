import ClipVerif.Facts.Tables
/-
C18 — independent calls are safe to run concurrently.  Proved: (1) an abstract non-interference
theorem: calls whose write footprints are disjoint from every other call's read and write
footprints return, in every interleaving, what they return alone; (2) the regenerated fact table
shows the library's only shared locations (package-level variables) are never written and nothing
else is shared: no goroutines, no `sync`, no `unsafe`.  Go's memory model, the allocator and the
scheduler are not modelled: the `-race` hammer stage explores real schedules.
-/
namespace C18

/-- a step of a call: read or write of an abstract location -/
inductive Step where
  | read (loc : Nat)
  | write (loc : Nat) (f : Nat → Nat)   -- new value computed from this call's accumulator (what it has read so far)

abbrev Store := Nat → Nat

structure Thread where
  steps : List Step
  acc : Nat := 0   -- the call's private accumulator (its "result so far")

def stepThread (s : Store) (acc : Nat) : Step → Store × Nat
  | .read l => (s, acc + s l)
  | .write l f => (fun x => if x = l then f acc else s x, acc)

def runAlone (s : Store) (t : List Step) (acc : Nat) : Store × Nat :=
  t.foldl (fun (st : Store × Nat) step => stepThread st.1 st.2 step) (s, acc)

def reads (t : List Step) : List Nat := t.filterMap fun | .read l => some l | _ => none
def writes (t : List Step) : List Nat := t.filterMap fun | .write l _ => some l | _ => none

/-- a schedule of two calls: `true` = next step of the first call -/
def runSched : List Bool → Store → List Step → Nat → List Step → Nat → Nat × Nat
  | _, _, [], a1, [], a2 => (a1, a2)
  | b :: bs, s, t1, a1, t2, a2 =>
    match b, t1, t2 with
    | true, st :: t1', _ => let (s', a1') := stepThread s a1 st; runSched bs s' t1' a1' t2 a2
    | false, _, st :: t2' => let (s', a2') := stepThread s a2 st; runSched bs s' t1 a1 t2' a2'
    | true, [], st :: t2' => let (s', a2') := stepThread s a2 st; runSched bs s' [] a1 t2' a2'
    | false, st :: t1', [] => let (s', a1') := stepThread s a1 st; runSched bs s' t1' a1' [] a2
    | _, [], [] => (a1, a2)
  | [], _, _, a1, _, a2 => (a1, a2)

theorem runAlone_nil (s : Store) (a : Nat) : runAlone s [] a = (s, a) := rfl

theorem runAlone_cons (s : Store) (st : Step) (t : List Step) (a : Nat) :
    runAlone s (st :: t) a = runAlone (stepThread s a st).1 t (stepThread s a st).2 := rfl

theorem reads_cons_read (l : Nat) (t : List Step) : reads (.read l :: t) = l :: reads t := rfl
theorem reads_cons_write (l : Nat) (f : Nat → Nat) (t : List Step) :
    reads (.write l f :: t) = reads t := rfl
theorem writes_cons_read (l : Nat) (t : List Step) : writes (.read l :: t) = writes t := rfl
theorem writes_cons_write (l : Nat) (f : Nat → Nat) (t : List Step) :
    writes (.write l f :: t) = l :: writes t := rfl

-- non-interference generalised for the induction: arbitrary accumulators, and the shared store agrees with each
-- call's solo store on everything that call still reads
theorem noninterference_gen (sched : List Bool) :
    ∀ (s s1 s2 : Store) (t1 t2 : List Step) (a1 a2 : Nat),
      (∀ l ∈ writes t1, l ∉ reads t2) →
      (∀ l ∈ writes t2, l ∉ reads t1) →
      (∀ l ∈ reads t1, s l = s1 l) →
      (∀ l ∈ reads t2, s l = s2 l) →
      t1.length + t2.length ≤ sched.length →
      runSched sched s t1 a1 t2 a2 = ((runAlone s1 t1 a1).2, (runAlone s2 t2 a2).2) := by
  -- one step `st` of either call (`ta` its remaining steps, `sa` its solo store; `tb`, `sb` the other's):
  -- it computes what it computes alone, and the four hypotheses hold again afterwards
  have frame : ∀ (s sa sb : Store) (a : Nat) (st : Step) (ta tb : List Step),
      (∀ l ∈ writes (st :: ta), l ∉ reads tb) → (∀ l ∈ writes tb, l ∉ reads (st :: ta)) →
      (∀ l ∈ reads (st :: ta), s l = sa l) → (∀ l ∈ reads tb, s l = sb l) →
      (stepThread s a st).2 = (stepThread sa a st).2 ∧
      (∀ l ∈ writes ta, l ∉ reads tb) ∧ (∀ l ∈ writes tb, l ∉ reads ta) ∧
      (∀ l ∈ reads ta, (stepThread s a st).1 l = (stepThread sa a st).1 l) ∧
      (∀ l ∈ reads tb, (stepThread s a st).1 l = sb l) := by
    intro s sa sb a st ta tb hab hba ha hb
    cases st with
    | read l =>
      rw [reads_cons_read] at hba ha
      refine ⟨congrArg (a + ·) (ha l List.mem_cons_self), hab,
        fun x hx hx' => hba x hx (List.mem_cons_of_mem _ hx'), fun x hx => ha x (List.mem_cons_of_mem _ hx), hb⟩
    | write l f =>
      rw [writes_cons_write] at hab
      refine ⟨rfl, fun x hx => hab x (List.mem_cons_of_mem _ hx), hba, fun x hx => ?_, fun x hx => ?_⟩
      · show (if x = l then _ else s x) = if x = l then _ else sa x
        split
        · rfl
        · exact ha x hx
      · show (if x = l then _ else s x) = sb x
        rw [if_neg fun (e : x = l) => hab l List.mem_cons_self (e ▸ hx)]
        exact hb x hx
  induction sched with
  | nil =>
    intro s s1 s2 t1 t2 a1 a2 _ _ _ _ hlen
    obtain ⟨rfl, rfl⟩ : t1 = [] ∧ t2 = [] := by
      constructor <;> apply List.eq_nil_of_length_eq_zero <;> simp only [List.length_nil] at hlen <;> omega
    rfl
  | cons b bs ih =>
    intro s s1 s2 t1 t2 a1 a2 h12 h21 hr1 hr2 hlen
    have step1 : ∀ (st : Step) (t1' : List Step), t1 = st :: t1' →
        runSched bs (stepThread s a1 st).1 t1' (stepThread s a1 st).2 t2 a2
          = ((runAlone s1 t1 a1).2, (runAlone s2 t2 a2).2) := by
      rintro st t1' rfl
      obtain ⟨e, k12, k21, k1, k2⟩ := frame s s1 s2 a1 st t1' t2 h12 h21 hr1 hr2
      rw [runAlone_cons, e]
      exact ih _ _ _ _ _ _ _ k12 k21 k1 k2 (by simp only [List.length_cons] at hlen ⊢; omega)
    have step2 : ∀ (st : Step) (t2' : List Step), t2 = st :: t2' →
        runSched bs (stepThread s a2 st).1 t1 a1 t2' (stepThread s a2 st).2
          = ((runAlone s1 t1 a1).2, (runAlone s2 t2 a2).2) := by
      rintro st t2' rfl
      obtain ⟨e, k21, k12, k2, k1⟩ := frame s s2 s1 a2 st t2' t1 h21 h12 hr2 hr1
      rw [runAlone_cons s2, e]
      exact ih _ _ _ _ _ _ _ k12 k21 k1 k2 (by simp only [List.length_cons] at hlen ⊢; omega)
    cases t1 with
    | nil =>
      cases t2 with
      | nil => simp [runSched, runAlone_nil]
      | cons st t2' =>
        cases b
        · simpa [runSched] using step2 st t2' rfl
        · simpa [runSched] using step2 st t2' rfl
    | cons st t1' =>
      cases t2 with
      | nil =>
        cases b
        · simpa [runSched] using step1 st t1' rfl
        · simpa [runSched] using step1 st t1' rfl
      | cons st2 t2' =>
        cases b
        · simpa [runSched] using step2 st2 t2' rfl
        · simpa [runSched] using step1 st t1' rfl

/-- non-interference: if each call's writes are disjoint from the other call's reads and writes, then under
    every (complete) schedule both calls compute exactly what they compute alone -/
theorem footprint_noninterference (t1 t2 : List Step) (s : Store) (sched : List Bool)
    (h12 : ∀ l ∈ writes t1, l ∉ reads t2 ∧ l ∉ writes t2)
    (h21 : ∀ l ∈ writes t2, l ∉ reads t1 ∧ l ∉ writes t1)
    (hlen : t1.length + t2.length ≤ sched.length) :
    runSched sched s t1 0 t2 0 = ((runAlone s t1 0).2, (runAlone s t2 0).2) :=
  noninterference_gen sched s s s t1 t2 0 0
    (fun l hl => (h12 l hl).1) (fun l hl => (h21 l hl).1) (fun _ _ => rfl) (fun _ _ => rfl) hlen

/-- the library shares nothing writable: package variables are never written, and there is no
    concurrency machinery or unsafe aliasing in it -/
theorem api_shares_nothing_writable :
    (∀ g ∈ Facts.globals, g.writes = []) ∧ Facts.goStatements = [] ∧
    (∀ i ∈ Facts.imports, i ≠ "sync" ∧ i ≠ "sync/atomic" ∧ i ≠ "unsafe") := by
  decide +kernel

/-- no function stores into an element of a slice it was handed as a parameter (nor into a range
    variable or local alias of one), nor sorts / reverses / copies over one in place — except three
    internal helpers that are only ever called with the clipper's own lists (`tidyEdgePair` with
    `r.edges[…]`, `insertAtIndex` with the scanline list).  So a path passed in by one caller is
    never written by the library, whoever else is reading it. -/
theorem inputs_never_written_in_place :
    Facts.paramWrites = ["RectClip64.tidyEdgePair: store through ccw",
      "RectClip64.tidyEdgePair: store through cw", "insertAtIndex: store through slice"] := by
  decide +kernel

end C18
