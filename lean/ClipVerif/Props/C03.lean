import ClipVerif.Proofs.C03
import ClipVerif.Proofs.C06
import ClipVerif.Proofs.C07
import ClipVerif.Props.C14
import ClipVerif.Model.IntersectList
import ClipVerif.Proofs.IntersectList
import ClipVerif.Proofs.IntersectProcess
import ClipVerif.Model.Ring
import ClipVerif.Proofs.Ring
import ClipVerif.Proofs.RingOwner
/-
C03 — every entry point is total.  Proved for the modelled list-level code: the generated functions
that index or panic are in the `Except Fault` monad, and the theorems below show when they return
normally; the hand models are total Lean functions (their loops are structural or carry an explicit
decreasing measure, accepted by Lean's termination checker — a termination proof of the modelled
loops).  The engine cannot be proved total here: explored by the isolated-process search stage.
-/
namespace C03
open Gen

/-- Area64 never faults (its only index expression, path[len-1], is guarded by len ≥ 3) -/
theorem area64_total (path : List Point64) : ∃ a, Area64 path = .ok a := by
  by_cases h : 3 ≤ path.length
  · exact ⟨_, C14.area64_accumulator path h⟩
  · exact ⟨_, C14.area64_short path (by omega)⟩

/-- checkPrecision panics exactly outside the documented range -/
theorem checkPrecision_total_iff (p : Int) : (∃ u, checkPrecision p = .ok u) ↔ (-8 ≤ p ∧ p ≤ 8) := by
  rw [← Proofs.C07.checkPrecision_iff]
  exact ⟨fun ⟨(), h⟩ => h, fun h => ⟨(), h⟩⟩

/-- minkowskiInternal's index expressions tmp[g][h], tmp[i][h], tmp[i][j], tmp[g][j] are always in
    range (the slice capacity computation is the separate fix ba87a52) -/
theorem minkowski_total (pattern path : Array Point64) (isSum isClosed : Bool) :
    ∃ r, Model.minkowski pattern path isSum isClosed = .ok r :=
  Proofs.C03.minkowski_total pattern path isSum isClosed

/-- the only fault site of polygon rectangle clipping is unreachable: `executeInternal` indexes
    `path[-1]` exactly when every vertex lies on the rectangle's boundary (Props C06
    `executePoly_fault_iff`), and for such a path the bounds lie inside the rectangle, so `Execute`
    takes its "bounds inside the rectangle" shortcut and never calls `executeInternal` -/
theorem rectclip_fault_unreachable (rect : Rect64) (path : List Point64) (hne : path ≠ [])
    (hr : rect.left ≤ rect.right ∧ rect.top ≤ rect.bottom)
    (hall : ∀ p ∈ path, (getLocation rect p).2 = false) :
    Rect64_Contains rect (getBounds path) = true :=
  Proofs.C03b.rectclip_fault_unreachable rect path hne hr hall

/-! ### `processIntersectList` never runs off the end of the node list (model `Model.Ix.process`, tied by
`models-corr ixlist`; `none` is the real code indexing `intersectList[len]` in its scan for the next node
whose edges are adjacent, or calling `swapPositionsInAEL` on edges that are the wrong way round) -/

/-- general form: an AEL without duplicates and, in any order, exactly the nodes of its inversions: the
    scan always finds an adjacent pair, the swap is always legal, every node is processed once, and the
    AEL ends up sorted with equal-x edges in their original order -/
theorem processIntersectList_total_gen (key : Nat → Int) (ael : List Nat) (hnd : ael.Nodup)
    (ns : List Model.Ix.Node) (h : ns.Perm (Proofs.IxProc.invOf key ael)) :
    ∃ done ael', Model.Ix.process ns ael = some (done, ael') ∧ done.Perm ns ∧ ael'.Perm ael ∧
      ael'.Pairwise (fun a b => key a ≤ key b) ∧
      ael'.Pairwise (fun a b => key a = key b → (ael.idxOf a < ael.idxOf b)) := by
  have h0 := (Proofs.IxProc.pairwise_idxOf ael hnd).imp
    (S := fun a b => key a = key b → ael.idxOf a < ael.idxOf b) fun h _ => h
  exact Proofs.IxProc.process_inv key _ (fun a b hk e => absurd e (Int.ne_of_lt hk)) ns ael hnd h h0

/-- the two halves together: whatever order `sort.Slice` leaves the nodes of `buildIntersectList` in,
    `processIntersectList` processes all of them without a fault and leaves the AEL ordered by x at the
    top of the scanbeam -/
theorem doIntersections_total (xs : List Int) (ns : List Model.Ix.Node)
    (h : ns.Perm (Model.Ix.build xs).2) :
    ∃ done ael', Model.Ix.process ns (List.range xs.length) = some (done, ael') ∧ done.Perm ns ∧
      ael'.Perm (List.range xs.length) ∧ ael'.Pairwise (fun a b => xs[a]! ≤ xs[b]!) :=
  Proofs.IxProc.process_total xs ns (h.trans (Proofs.Ix.build_nodes xs))

/-- ring assembly never dereferences a nil record or an empty ring: in every state reached by operations
the sweep can issue, every such operation succeeds (model `Model.Ring`, tied by `models-corr ring`; `none`
is the real code panicking in `addOutPt`, `isFront` or `joinOutrecPaths`) -/
theorem ring_assembly_total (usingTree : Bool) (n : Nat) (s : Model.Ring.St)
    (h : Proofs.Ring.Reachable usingTree n s) (op : Model.Ring.Op) (hv : Proofs.Ring.validB s op = true) :
    ∃ s', Model.Ring.step usingTree s op = some s' := by
  obtain ⟨s', h', _⟩ := Proofs.Ring.step_spec usingTree (Proofs.Ring.reachable_spec usingTree n s h).1 hv
  exact ⟨s', h'⟩

/-! ### Owner chains end.  `setOwner`'s two loops and the owner walks of the PolyTree builder follow
`owner` pointers with no bound: a cycle among them is a hang. -/

/-- `setOwner(outrec, newOwner)` keeps every owner chain finite, whatever the table looks like, as long as
a record is not made its own owner (the model's iteration bounds are shown never to bind on such tables) -/
theorem setOwner_keeps_chains_finite (s : Model.Ring.St) (a b : Nat) (h : Proofs.RingOwner.Acyclic s)
    (hne : a ≠ b) : Proofs.RingOwner.Acyclic (Model.Ring.setOwner s a b) :=
  (Proofs.RingOwner.acyclic_iff _).mpr
    (Proofs.RingOwner.acyc_setOwner ((Proofs.RingOwner.acyclic_iff s).mp h) hne)

/-- in every state reached by operations the sweep can issue, with `addLocalMinPoly` / `addLocalMaxPoly`
called with the left edge first as the sweep does, every owner chain ends — with and without PolyTree
bookkeeping -/
theorem owner_chains_end (usingTree : Bool) (n : Nat) (s : Model.Ring.St)
    (h : Proofs.RingOwner.ReachableO usingTree n s) : ∀ r, Proofs.RingOwner.Ends s r :=
  (Proofs.RingOwner.acyclic_iff s).mpr (Proofs.RingOwner.reachableO_ownersOK h).acyc

/-- the ordering condition is needed: called with the right edge first, `addLocalMinPoly` finds its own
second edge as the previous hot edge and makes the new record its own owner (the next `setOwner` that
walks over it never returns; reproduced on the real code) -/
theorem owner_cycle_without_edge_order :
    ((Model.Ring.step true { edgeRec := List.replicate 3 none } (.min 2 0 ⟨0, 0⟩ true)).map
      fun s => (s.getRec 0).owner) = some (some 0) := by
  decide

end C03
