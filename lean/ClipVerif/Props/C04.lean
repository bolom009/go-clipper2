import ClipVerif.Proofs.C04
import ClipVerif.Proofs.Tree
import ClipVerif.Proofs.PIPOp
import ClipVerif.Model.Tree
import ClipVerif.Model.PIPOp
import ClipVerif.Model.Contain
import ClipVerif.Proofs.Contain
import ClipVerif.Proofs.PIP
import ClipVerif.Model.Conv
import ClipVerif.Spec.Wind
/-
C04 — PolyTree results are the same polygons, correctly nested.  Proved: IsHole as a function of the
nesting level (generated from `PolyPathBase.IsHole`, with the parent walk `Level()` as a parameter):
levels alternate filled boundary / hole by construction.  Ownership correction (which record
becomes whose child) is explored by the search.
-/
namespace C04
open Gen Model

theorem isHole_iff (level : Int) (h : 0 ≤ level) :
    PolyPathBase_IsHole level = true ↔ (level ≠ 0 ∧ level % 2 = 0) :=
  -- holds for every integer level (64-bit wrap-around preserves parity); `h` is not needed
  Proofs.C04.isHole_iff level

/-- a child of a node at level ≥ 1 has the opposite hole status; top-level polygons are not holes -/
theorem isHole_alternates (level : Int) (h : 1 ≤ level) :
    PolyPathBase_IsHole (level + 1) = !PolyPathBase_IsHole level :=
  Proofs.C04.isHole_alternates level h

theorem top_level_not_hole : PolyPathBase_IsHole 1 = false ∧ PolyPathBase_IsHole 0 = false :=
  Proofs.C04.top_level_not_hole

/-! ### Owner search of the tree builder (model `Model.Tree` of `buildTree` / `recursiveCheckOwners` /
`checkSplitOwner`, tied by `models-corr tree`) -/

/-- a record table as the sweep leaves it: indices in range, nothing placed or marked yet, owner
    links acyclic (here: every owner has a smaller index) -/
def FreshTable (t : Table) : Prop :=
  (∀ i, i < t.size → t[i]!.placed = false ∧ t[i]!.mark = none ∧ t[i]!.parent = none) ∧
  (∀ i o, i < t.size → t[i]!.owner = some o → o < i) ∧
  (∀ i l s, i < t.size → t[i]!.splits = some l → s ∈ l → s < t.size)

/-- containment is a strict partial order (true of `path1InsidePath2` on rings that do not cross) -/
def StrictInside (g : Geo) : Prop :=
  (∀ a, g.inside a a = false) ∧ (∀ a b c, g.inside a b = true → g.inside b c = true → g.inside a c = true)

/-- every node's polygon lies inside its parent's polygon: whatever the owner hints and splits
    lists are, a record is only ever attached below a record that has points, is itself placed,
    and contains it -/
theorem buildTree_parent_contains (g : Geo) (t : Table) (hf : FreshTable t) (hg : StrictInside g)
    (i p : Nat) (hi : i < t.size) (hp : (buildTree g t)[i]!.parent = some p) :
    g.inside i p = true ∧ (buildTree g t)[p]!.placed = true ∧ t[p]!.hasPts = true :=
  Proofs.Tree.buildTree_parent_contains g t hf.1 hf.2.1 hg.1 hg.2 i p hp

/-- every record that has points gets a node, records without points get none -/
theorem buildTree_places_exactly (g : Geo) (t : Table) (hf : FreshTable t) (hg : StrictInside g)
    (i : Nat) (hi : i < t.size) :
    (buildTree g t)[i]!.placed = t[i]!.hasPts :=
  Proofs.Tree.buildTree_places_exactly g t hf.1 hf.2.1 hg.1 hg.2 i hi

/-! ### The containment test on output rings (`pointInOpPolygon`, model `Model.PIPOp`, tied by `models-corr pipop`) -/

/-- `pointInOpPolygon` is exact within the coordinate domain: IsOn (0) exactly on the ring, IsInside
    (1) exactly where the winding number is odd, IsOutside (2) elsewhere — for every ring of at
    least three vertices not contained in the horizontal line through the point -/
theorem pointInOpPolygon_correct (pt : Point64) (ring : List Point64)
    (hp : pt.inRange) (hr : ∀ q ∈ ring, q.inRange) (h3 : 3 ≤ ring.length)
    (hflat : ∃ q ∈ ring, q.Y ≠ pt.Y) :
    Model.pointInOpPolygon pt ring =
      (if Spec.onPath (pathToI ring) ⟨(pt.X.toInt : Rat), (pt.Y.toInt : Rat)⟩ then 0
       else if Spec.wind (pathToI ring) ⟨(pt.X.toInt : Rat), (pt.Y.toInt : Rat)⟩ % 2 ≠ 0 then 1 else 2) :=
  Proofs.PIPOp.pointInOpPolygon_correct pt ring hp hr h3 hflat

/-- rings of fewer than three vertices, and rings lying in the horizontal line through the point,
    are reported IsOutside -/
theorem pointInOpPolygon_degenerate (pt : Point64) (ring : List Point64)
    (h : ring.length < 3 ∨ ∀ q ∈ ring, q.Y = pt.Y) :
    Model.pointInOpPolygon pt ring = 2 :=
  Proofs.PIPOp.pointInOpPolygon_degenerate pt ring h

/-! ### The containment vote (`path1InsidePath2`, `Path2ContainsPath1`, `getCleanPath`; model
`Model.Contain`, tied by `models-corr contain`).  `buildTree_parent_contains` above takes the
containment relation as a parameter; these theorems say what the real test answers. -/

/-- the point as the specification sees it -/
def qOf (p : Point64) : QPt := ⟨(p.X.toInt : Rat), (p.Y.toInt : Rat)⟩

/-- strictly inside / strictly outside a ring, by the exact winding number (even-odd, as both point tests use it) -/
def StrictIn (ring : List Point64) (p : Point64) : Bool :=
  !Spec.onPath (pathToI ring) (qOf p) && decide (Spec.wind (pathToI ring) (qOf p) % 2 ≠ 0)
def StrictOut (ring : List Point64) (p : Point64) : Bool :=
  !Spec.onPath (pathToI ring) (qOf p) && decide (Spec.wind (pathToI ring) (qOf p) % 2 = 0)

/-- the vote alone: no IsOutside verdict and two IsInside verdicts ⇒ true; the mirror image ⇒ false;
    whatever the order and however many IsOn verdicts lie between -/
theorem vote_inside (cs : List Nat) (hno : ∀ c ∈ cs, c ≠ 2) (h2 : 2 ≤ cs.count 1) :
    Model.vote 0 cs = .inl true :=
  Proofs.Contain.vote_inside cs hno h2

theorem vote_outside (cs : List Nat) (hno : ∀ c ∈ cs, c ≠ 1) (h2 : 2 ≤ cs.count 2) :
    Model.vote 0 cs = .inl false :=
  Proofs.Contain.vote_outside cs hno h2

/-- rings that do not cross: if no vertex of ring1 is strictly outside ring2 and two are strictly
    inside, `path1InsidePath2` answers true (ring2 within the coordinate domain, ≥ 3 vertices, not flat) -/
theorem path1InsidePath2_sound_inside (ring1 ring2 : List Point64)
    (hr1 : ∀ q ∈ ring1, q.inRange) (hr2 : ∀ q ∈ ring2, q.inRange) (h3 : 3 ≤ ring2.length)
    (hY : ∃ a ∈ ring2, ∃ b ∈ ring2, a.Y ≠ b.Y)
    (hno : ∀ p ∈ ring1, StrictOut ring2 p = false)
    (h2 : 2 ≤ ring1.countP (StrictIn ring2)) :
    Model.path1InsidePath2 ring1 ring2 = true :=
  Proofs.Contain.path1InsidePath2_sound_inside ring1 ring2 hr1 hr2 h3 hY hno h2

theorem path1InsidePath2_sound_outside (ring1 ring2 : List Point64)
    (hr1 : ∀ q ∈ ring1, q.inRange) (hr2 : ∀ q ∈ ring2, q.inRange) (h3 : 3 ≤ ring2.length)
    (hY : ∃ a ∈ ring2, ∃ b ∈ ring2, a.Y ≠ b.Y)
    (hno : ∀ p ∈ ring1, StrictIn ring2 p = false)
    (h2 : 2 ≤ ring1.countP (StrictOut ring2)) :
    Model.path1InsidePath2 ring1 ring2 = false :=
  (Proofs.Contain.contains_sound false ring1 ring2 hr1 hr2 h3 hY hno h2).1

/-- the exported `Path2ContainsPath1`, same statements -/
theorem path2ContainsPath1_sound_inside (path1 path2 : List Point64)
    (hr1 : ∀ q ∈ path1, q.inRange) (hr2 : ∀ q ∈ path2, q.inRange) (h3 : 3 ≤ path2.length)
    (hY : ∃ a ∈ path2, ∃ b ∈ path2, a.Y ≠ b.Y)
    (hno : ∀ p ∈ path1, StrictOut path2 p = false)
    (h2 : 2 ≤ path1.countP (StrictIn path2)) :
    Model.path2ContainsPath1 path1 path2 = true :=
  Proofs.Contain.path2ContainsPath1_sound_inside path1 path2 hr1 hr2 h3 hY hno h2

theorem path2ContainsPath1_sound_outside (path1 path2 : List Point64)
    (hr1 : ∀ q ∈ path1, q.inRange) (hr2 : ∀ q ∈ path2, q.inRange) (h3 : 3 ≤ path2.length)
    (hY : ∃ a ∈ path2, ∃ b ∈ path2, a.Y ≠ b.Y)
    (hno : ∀ p ∈ path1, StrictIn path2 p = false)
    (h2 : 2 ≤ path1.countP (StrictOut path2)) :
    Model.path2ContainsPath1 path1 path2 = false :=
  (Proofs.Contain.contains_sound false path1 path2 hr1 hr2 h3 hY hno h2).2

/-- when every vertex of path1 lies on path2 (polygons sharing their boundary), the mid-point of
    path1's bounds decides, and a mid-point on the boundary counts as contained -/
theorem path2ContainsPath1_all_on (path1 path2 : List Point64)
    (hon : ∀ p ∈ path1, Model.pointInPolygon p path2.toArray = 0) :
    Model.path2ContainsPath1 path1 path2 =
      (Model.pointInPolygon (Rect64_MidPoint (getBounds path1)) path2.toArray != 2) :=
  Proofs.Contain.path2ContainsPath1_all_on path1 path2 hon

/-- `getCleanPath` only drops vertices: the result is a sub-list of the ring, not empty for a
    non-empty ring, and starts at the first vertex it did not skip -/
theorem getCleanPath_sublist (ring : List Point64) : (Model.getCleanPath ring).Sublist ring :=
  Proofs.Contain.getCleanPath_sublist ring

theorem getCleanPath_ne_nil (ring : List Point64) (h : ring ≠ []) : Model.getCleanPath ring ≠ [] :=
  Proofs.Contain.getCleanPath_ne_nil ring h

/-- non-vacuity: a unit-10 square contains the triangle (2,2) (8,2) (5,7) and not the shifted one -/
example : Model.path1InsidePath2 [⟨2, 2⟩, ⟨8, 2⟩, ⟨5, 7⟩] [⟨0, 0⟩, ⟨10, 0⟩, ⟨10, 10⟩, ⟨0, 10⟩] = true ∧
    Model.path1InsidePath2 [⟨22, 2⟩, ⟨28, 2⟩, ⟨25, 7⟩] [⟨0, 0⟩, ⟨10, 0⟩, ⟨10, 10⟩, ⟨0, 10⟩] = false := by
  decide

end C04
