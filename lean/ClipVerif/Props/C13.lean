import ClipVerif.Proofs.Arith
import ClipVerif.Proofs.C13b
import ClipVerif.Proofs.C17
import ClipVerif.Model.Trim
import ClipVerif.Model.Lists
import ClipVerif.Model.Out
import ClipVerif.Model.AreaOP
import ClipVerif.Model.OffsetGeom
import ClipVerif.Proofs.Area
/-
C13 — results do not depend on coordinate magnitude within the advertised range.  Proved about the
generated arithmetic leaves: they are invariant under every translation (differences are taken
before multiplying, and two's-complement subtraction is translation invariant, so this holds for
ALL 64-bit vectors, not only within 2^52), they are exact below 2^29 (Props/C14), and they are
WRONG inside the advertised range 2^61: witnesses with coordinates of 2^32 whose cross product
wraps (KNOWN_FINDINGS site:int64-product-overflow).  The list algorithms of the hand models
(`trimCollinear`, `stripDuplicates`, the removal loop of `cleanCollinear`, `buildPath`) commute with every
translation, again for all 64-bit vectors.  The effect on whole operations is explored by the
metamorphic search stage.
-/
namespace C13
open Gen

def shift (p v : Point64) : Point64 := ⟨p.X + v.X, p.Y + v.Y⟩

theorem crossProduct_translation_invariant (p1 p2 p3 v : Point64) :
    CrossProduct (shift p1 v) (shift p2 v) (shift p3 v) = CrossProduct p1 p2 p3 := by
  simp only [CrossProduct, shift, Proofs.Arith.sub_shift]

theorem dotProduct_translation_invariant (p1 p2 p3 v : Point64) :
    dotProduct64 (shift p1 v) (shift p2 v) (shift p3 v) = dotProduct64 p1 p2 p3 := by
  simp only [dotProduct64, shift, Proofs.Arith.sub_shift]

theorem isCollinear_translation_invariant (p1 p2 p3 v : Point64) :
    isCollinear (shift p1 v) (shift p2 v) (shift p3 v) = isCollinear p1 p2 p3 := by
  simp only [isCollinear, shift, Proofs.Arith.sub_shift]

theorem segsIntersect_translation_invariant (a b c d v : Point64) (inc : Bool) :
    segsIntersect (shift a v) (shift b v) (shift c v) (shift d v) inc = segsIntersect a b c d inc := by
  simp only [segsIntersect, crossProduct_translation_invariant]

/-- inside the advertised range the int64 cross product has the wrong sign: the full-strength
    exactness statement (for |coordinate| ≤ 2^61) is false -/
theorem crossProduct_exact_to_maxcoord_false :
    ¬ (∀ p1 p2 p3 : Point64,
        (∀ p ∈ [p1, p2, p3], p.X.toInt.natAbs ≤ 2 ^ 61 ∧ p.Y.toInt.natAbs ≤ 2 ^ 61) →
        (CrossProduct p1 p2 p3 < 0 ↔ crossZ p1 p2 p3 < 0)) := by
  intro h
  have := h ⟨0, 0⟩ ⟨4294967296, 0⟩ ⟨4294967296, 2147483648⟩ (by decide)
  revert this
  decide

/-- already at 2^32: a concrete triple whose exact cross product is positive while the library's is not -/
theorem crossProduct_overflow_witness :
    ∃ p1 p2 p3 : Point64, (∀ p ∈ [p1, p2, p3], p.X.toInt.natAbs ≤ 2 ^ 32 ∧ p.Y.toInt.natAbs ≤ 2 ^ 32) ∧
      0 < crossZ p1 p2 p3 ∧ ¬ (0 < CrossProduct p1 p2 p3) :=
  ⟨⟨0, 0⟩, ⟨4294967296, 0⟩, ⟨4294967296, 2147483648⟩, by decide, by decide, by decide⟩

/-- the exact doubled area of a closed path is translation invariant, so the wrapped accumulator of
    Area64 (Props/C14 `area64_accumulator`) is too -/
theorem area2_translate (path : List IPt) (dx dy : Int) :
    Spec.area2 (path.map fun v => ⟨v.x + dx, v.y + dy⟩) = Spec.area2 path :=
  Proofs.C17.area2_translate path dx dy

/-- `TrimCollinear64` commutes with translation by any 64-bit vector (it only compares points for
    equality and asks `isCollinear`) -/
theorem trim_translate (path : Array Point64) (isOpen : Bool) (v : Point64) :
    Model.trimCollinear (path.map (shift · v)) isOpen = (Model.trimCollinear path isOpen).map (shift · v) :=
  Proofs.C13b.trim_map (f := (shift · v)) (Proofs.C13b.add_inj v)
    (fun a b c => isCollinear_translation_invariant a b c v) path isOpen

/-- `StripDuplicates` commutes with translation -/
theorem strip_translate (path : List Point64) (closed : Bool) (v : Point64) :
    Model.stripDuplicates (path.map (shift · v)) closed = (Model.stripDuplicates path closed).map (shift · v) :=
  Proofs.C13b.strip_map (f := (shift · v)) (Proofs.C13b.add_inj v) path closed

/-- the vertex-removal loop of `cleanCollinear` commutes with translation (equality tests,
    `isCollinear` and the sign of `dotProduct64` only) -/
theorem clean_translate (preserve : Bool) (ring : List Point64) (v : Point64) :
    Model.cleanCollinearLoop preserve (ring.map (shift · v)) =
      ((Model.cleanCollinearLoop preserve ring).1.map (shift · v), (Model.cleanCollinearLoop preserve ring).2) :=
  Proofs.Out.cleanCollinearLoop_map (f := (shift · v)) (Proofs.C13b.add_inj v)
    (fun a b c => isCollinear_translation_invariant a b c v)
    (fun a b c => dotProduct_translation_invariant a b c v) preserve ring

/-- `buildPath` commutes with translation, except for the very-small-triangle test, which is
    itself translation invariant (coordinate differences) -/
theorem buildPath_translate (ring : List Point64) (reverse isOpen : Bool) (v : Point64) :
    Model.buildPath (ring.map (shift · v)) reverse isOpen = (Model.buildPath ring reverse isOpen).map (·.map (shift · v)) := by
  refine Proofs.Out.buildPath_map (f := (shift · v)) (Proofs.C13b.add_inj v) (fun a b => ?_) ring reverse isOpen
  simp only [ptsReallyClose, shift, Proofs.Arith.sub_shift]

/-! ### The ring area of the self-intersection repair (`areaOP`, model `Model.areaOP`, tied bit for bit
by `models-corr areaop`).  The float accumulation multiplies a coordinate SUM by a coordinate
DIFFERENCE; its exact counterpart is the shoelace sum of the specification, hence translation
invariant — in floats only the differences are. -/

theorem areaOPExact2_eq_area2 (ring : List IPt) : Model.areaOPExact2 ring = Spec.area2 ring :=
  Proofs.AreaOP.areaOPExact2_eq_area2 ring

theorem areaOPExact2_translate (ring : List IPt) (dx dy : Int) :
    Model.areaOPExact2 (ring.map fun v => ⟨v.x + dx, v.y + dy⟩) = Model.areaOPExact2 ring := by
  rw [areaOPExact2_eq_area2, areaOPExact2_eq_area2]
  exact area2_translate ring dx dy

/-- the difference operand of every term of the float accumulation is the same for a translated
    ring, for every 64-bit translation vector (two's complement); the sum operand moves by 2·dy -/
theorem areaOP_operands_translate (prev cur v : Point64) :
    (shift prev v).X - (shift cur v).X = prev.X - cur.X ∧
    (shift prev v).Y + (shift cur v).Y = prev.Y + cur.Y + 2 * v.Y := by
  refine ⟨?_, ?_⟩
  · simp only [shift, Proofs.Arith.sub_shift]
  · simp only [shift]
    rw [Int64.two_mul, Int64.add_assoc prev.Y, ← Int64.add_assoc v.Y, Int64.add_comm v.Y, Int64.add_assoc cur.Y,
      ← Int64.add_assoc prev.Y]

example : Model.areaOPExact2 [⟨0, 0⟩, ⟨4, 0⟩, ⟨4, 3⟩] = Spec.area2 [⟨0, 0⟩, ⟨4, 0⟩, ⟨4, 3⟩] ∧
    Model.areaOPExact2 [⟨0, 0⟩, ⟨4, 0⟩, ⟨4, 3⟩] ≠ 0 := by decide

/-! ### Edge normals of the offsetter (`Model.getUnitNormal`, `Model.buildNormals`, tied bit for bit by
`models-corr offraw`): computed from coordinate differences taken in int64 before the conversion, hence
identical — bit for bit — for a translated path, for every 64-bit translation vector. -/

theorem getUnitNormal_translate (p1 p2 v : Point64) :
    Model.getUnitNormal (shift p1 v) (shift p2 v) = Model.getUnitNormal p1 p2 := by
  simp only [Model.getUnitNormal, shift, Proofs.Arith.sub_shift]

theorem buildNormals_translate (path : Array Point64) (v : Point64) :
    Model.buildNormals (path.map fun p => shift p v) = Model.buildNormals path :=
  Proofs.C13b.buildNormals_map (fun a b => getUnitNormal_translate a b v) path

end C13
