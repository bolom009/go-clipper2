import ClipVerif.Proofs.C14
import ClipVerif.Proofs.C15
import ClipVerif.Proofs.C15b
/-
C15 — TrimCollinear64 removes exactly the redundant vertices.  Theorems about the hand model
`Model.trimCollinear` (tied to the code by the `models-corr` stage) with the generated collinearity
predicate `Gen.isCollinear` — so they hold whatever that predicate answers, except where `hcol`
assumes it is exact (Props/C14 shows when it is).
FALSE on the current tree and therefore delivered as proved negations with witnesses (the witnesses
avoid coordinate differences of exactly 1, so they are independent of the triSign defect):
`trim_idempotent_full`, `trim_no_three_collinear_full` (KNOWN_FINDINGS site:trim-single-pass).
-/
namespace C15
open Gen Model

/-- FULL statement "a closed path is trimmed to nothing or to at least 3 vertices" — FALSE on the
    current tree: `isCollinear a b a` is not always true (triSign treats a difference of +1 as 0,
    KNOWN_FINDINGS site:triSign-plus-one), and then the closing test keeps a 2-vertex result.
    Witness (replayed on the real code by the C15 search): closed (0,0),(3,-3),(1,-1) ↦ (0,0),(1,-1). -/
theorem trim_closed_size_full_false :
    ¬ ∀ path : Array Point64,
      (trimCollinear path false).size = 0 ∨ 3 ≤ (trimCollinear path false).size :=
  Proofs.C15.closed_size_false

/-- what does hold: empty, at least 3 vertices, or exactly the two vertices `a, b` for which the
    collinearity predicate denies `isCollinear a b a` -/
theorem trim_closed_size_partial (path : Array Point64) :
    (trimCollinear path false).size = 0 ∨ 3 ≤ (trimCollinear path false).size ∨
      ∃ a b, trimCollinear path false = #[a, b] ∧ a ∈ path ∧ b ∈ path ∧ isCollinear a b a = false :=
  Proofs.C15.closed_size_weak path

/-- a closed result never consists of a single vertex -/
theorem trim_closed_size_ne_one (path : Array Point64) : (trimCollinear path false).size ≠ 1 :=
  Proofs.C15.closed_size_ne_one path

/-- open paths: the result is a sub-sequence of the input -/
theorem trim_open_sublist (path : Array Point64) :
    (trimCollinear path true).toList.Sublist path.toList :=
  Proofs.C15.trim_sublist path true

/-- open paths: a non-empty result keeps both end points -/
theorem trim_open_ends (path : Array Point64) (h : (trimCollinear path true).size ≠ 0) :
    (trimCollinear path true)[0]? = path[0]? ∧ (trimCollinear path true).back? = path.back? :=
  Proofs.C15.open_ends path h

/-- closed paths: the result is a sub-sequence of a rotation of the input (a cyclic sub-sequence) -/
theorem trim_closed_cyclic_sublist (path : Array Point64) :
    ∃ k, (trimCollinear path false).toList.Sublist (path.toList.drop k ++ path.toList.take k) :=
  ⟨0, by simpa using Proofs.C15.trim_sublist path false⟩

/-- paths with fewer than 3 vertices: closed ↦ empty -/
theorem trim_closed_short (path : Array Point64) (h : path.size < 3) : trimCollinear path false = #[] :=
  Proofs.C15.closed_short path h

/-- full-strength idempotence is false: witness -/
def idemWitness : Array Point64 := #[⟨0, 0⟩, ⟨0, 2⟩, ⟨0, 0⟩, ⟨4, 0⟩, ⟨0, 4⟩, ⟨2, 0⟩]

theorem trim_idempotent_full_false :
    trimCollinear (trimCollinear idemWitness false) false ≠ trimCollinear idemWitness false := by
  decide +kernel

/-- and the first trim leaves three cyclically consecutive collinear vertices (2,0),(0,0),(4,0) -/
theorem trim_no_three_collinear_full_false :
    trimCollinear idemWitness false = #[⟨0, 0⟩, ⟨4, 0⟩, ⟨0, 4⟩, ⟨2, 0⟩] ∧ crossZ ⟨2, 0⟩ ⟨0, 0⟩ ⟨4, 0⟩ = 0 := by
  decide +kernel

/-- closed paths: the exact signed area is unchanged whenever `isCollinear` is sound on the points
    of the path (it is whenever no coordinate difference it multiplies equals +1, see C14) -/
theorem trim_closed_area_partial (path : Array Point64)
    (hcol : ∀ a b c, a ∈ path.toList → b ∈ path.toList → c ∈ path.toList →
      isCollinear a b c = true → crossZ a b c = 0) :
    Spec.area2 (pathToI (trimCollinear path false).toList) = Spec.area2 (pathToI path.toList) :=
  Proofs.C15b.trim_closed_area_partial path hcol

/-- hence, unconditionally within the coordinate domain: for every closed path with coordinates within
    2^29 and no coordinate difference of exactly +1 between two of its points (the `triSign` defect,
    C14), the exact signed area is unchanged.  Rests on the exactness of the 128-bit product
    comparison (`mulU64_correct`, `productsAreEqual`), so a change to that arithmetic breaks this. -/
theorem trim_closed_area_inrange (path : Array Point64)
    (hr : ∀ q ∈ path.toList, q.inRange)
    (hne : ∀ a b, a ∈ path.toList → b ∈ path.toList → b.X - a.X ≠ 1 ∧ b.Y - a.Y ≠ 1) :
    Spec.area2 (pathToI (trimCollinear path false).toList) = Spec.area2 (pathToI path.toList) := by
  apply trim_closed_area_partial
  intro a b c ha hb hc h
  exact (Proofs.C14.isCollinear_iff_cross_zero_partial a b c (hr a ha) (hr b hb) (hr c hc)
    ⟨(hne a b ha hb).1, (hne b c hb hc).2, (hne a b ha hb).2, (hne b c hb hc).1⟩).mp h

/-- non-vacuity: a 2-spaced square with a mid-edge vertex meets both hypotheses -/
example : (∀ q ∈ (#[⟨0, 0⟩, ⟨2, 0⟩, ⟨4, 0⟩, ⟨4, 4⟩, ⟨0, 4⟩] : Array Point64).toList, q.inRange) ∧
    (∀ a b, a ∈ (#[⟨0, 0⟩, ⟨2, 0⟩, ⟨4, 0⟩, ⟨4, 4⟩, ⟨0, 4⟩] : Array Point64).toList →
      b ∈ (#[⟨0, 0⟩, ⟨2, 0⟩, ⟨4, 0⟩, ⟨4, 4⟩, ⟨0, 4⟩] : Array Point64).toList → b.X - a.X ≠ 1 ∧ b.Y - a.Y ≠ 1) := by
  constructor
  · intro q hq; simp at hq; rcases hq with rfl | rfl | rfl | rfl | rfl <;> (unfold Point64.inRange; decide)
  · intro a b ha hb; simp at ha hb
    rcases ha with rfl | rfl | rfl | rfl | rfl <;> rcases hb with rfl | rfl | rfl | rfl | rfl <;> decide

end C15
