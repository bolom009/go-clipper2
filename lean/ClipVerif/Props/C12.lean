import ClipVerif.Facts.Tables
import ClipVerif.Model.Scan
import ClipVerif.Proofs.Scan
import ClipVerif.Model.Minima
import ClipVerif.Proofs.Minima
/-
C12 — an engine's answer depends only on the paths added.  Proved over the regenerated field table
`Facts.fields`: the engine has exactly the fields classified below (a new field breaks this theorem
until it is classified), every per-execution scratch field is reset by `reset`,
`clearSolutionOnly` or `disposeIntersectNodes`, the tree-mode flag is set by every Execute entry
point, and no package-level variable is ever written.  History independence of the results
themselves is explored by the search (random histories vs fresh engines, exact comparison).
-/
namespace C12
open Facts

def engineFields : List String := (fields.filter (·.struct == "clipperBase")).map (·.name)

/-- input (kept between executions), options, per-call parameters, scratch -/
def inputFields : List String := ["minimaList", "vertexList", "hasOpenPaths", "isSortedMinimaList"]
def optionFields : List String := ["preserveCollinear", "reverseSolution"]
def perCallFields : List String := ["usingPolyTree", "succeeded", "fillRule", "clipType", "currentBotY", "currentLocMin"]
def scratchFields : List String := ["intersectList", "outrecList", "horzSegList", "horzJoinList", "scanlineList", "actives", "sel"]

theorem fields_classified :
    ∀ f ∈ engineFields, f ∈ inputFields ++ optionFields ++ perCallFields ++ scratchFields := by
  decide +kernel

theorem classification_complete :
    ∀ f ∈ inputFields ++ optionFields ++ perCallFields ++ scratchFields, f ∈ engineFields := by
  decide +kernel

def assignedIn (name : String) : List String :=
  ((fields.filter (fun f => f.struct == "clipperBase" && f.name == name)).map (·.assignedIn)).flatten

/-- every scratch field is emptied by the per-execution reset / cleanup code -/
theorem scratch_reset :
    ∀ f ∈ scratchFields, (assignedIn f).any (fun fn =>
      fn == "clipperBase.reset" || fn == "clipperBase.clearSolutionOnly" || fn == "clipperBase.disposeIntersectNodes" ||
      fn == "clipperBase.deleteFromAEL") = true := by
  decide +kernel

/-- per-call fields are assigned on every execution path: by executeInternal / reset, and the
    tree-mode flag by each of the five Execute entry points -/
theorem per_call_assigned :
    (∀ f ∈ ["fillRule", "clipType"], "clipperBase.executeInternal" ∈ assignedIn f) ∧
    (∀ f ∈ ["succeeded", "currentBotY", "currentLocMin"], "clipperBase.reset" ∈ assignedIn f) ∧
    (∀ e ∈ ["clipper64.ExecuteOC", "clipper64.ExecutePolyTree64", "clipperD.ExecuteOC", "clipperD.ExecutePolyTreeD", "clipperD.ExecuteWithScaleFunc"],
       e ∈ assignedIn "usingPolyTree") := by
  decide +kernel

/-- input fields are only written when paths are added (or the list is sorted in reset) -/
theorem input_fields_written_only_by_add :
    ∀ f ∈ ["minimaList", "vertexList", "hasOpenPaths"], ∀ fn ∈ assignedIn f,
      fn = "clipperBase.baseAddPaths" ∨ fn = "clipperBase.addReuseableData" ∨ fn = "newClipperBase" := by
  decide +kernel

theorem no_package_state_written : ∀ g ∈ globals, g.writes = [] := by
  decide +kernel

/-- the caller's paths are never modified: no function stores into an element of a slice parameter
    (or an alias of one) except the three internal list helpers -/
theorem inputs_never_written_in_place :
    paramWrites = ["RectClip64.tidyEdgePair: store through ccw",
      "RectClip64.tidyEdgePair: store through cw", "insertAtIndex: store through slice"] := by
  decide +kernel

/-! ### The scanline list (model `Model.Scan` of `insertScanline` / `popScanline` / `binarySearch`, tied by
`models-corr scan`): an ascending list, the largest value is visited first and never twice -/

def Ascending (l : List Int64) : Prop := l.Pairwise (· ≤ ·)

theorem insertScanline_ascending (l : List Int64) (y : Int64) (h : Ascending l) :
    Ascending (Model.insertScanline l y) :=
  Proofs.Scan.insertScanline_ascending l y h

theorem insertScanline_mem (l : List Int64) (y z : Int64) (h : Ascending l) :
    z ∈ Model.insertScanline l y ↔ (z = y ∨ z ∈ l) :=
  Proofs.Scan.insertScanline_mem l y z h

/-- a value already present is not inserted again -/
theorem insertScanline_present (l : List Int64) (y : Int64) (h : Ascending l) (hy : y ∈ l) :
    Model.insertScanline l y = l :=
  Proofs.Scan.insertScanline_present l y h hy

theorem popScanline_nil : Model.popScanline [] = none :=
  Proofs.Scan.popScanline_nil

/-- popping returns the largest value and removes every copy of it; the rest stays ascending -/
theorem popScanline_spec (l : List Int64) (h : Ascending l) (hne : l ≠ []) :
    ∃ y rest, Model.popScanline l = some (y, rest) ∧ y ∈ l ∧ (∀ z ∈ l, z ≤ y) ∧
      Ascending rest ∧ (∀ z, z ∈ rest ↔ (z ∈ l ∧ z ≠ y)) :=
  Proofs.Scan.popScanline_spec l h hne

/-! ### Local minima across executions (model `Model.Minima` of `baseAddPaths`' flag, `reset`,
`clearSolutionOnly`'s scanline truncation and the outer loop of `executeInternal`; tied by
`models-corr minima`, hook `VMinimaOps`) -/

/-- whatever the history of `AddPaths` calls and executions on an engine, the list of local minima the next
execution sweeps is the stable descending sort of everything added, in the order it was added: it does not
depend on when earlier executions happened (the `isSortedMinimaList` flag is only an optimisation) -/
theorem minima_history_independent (ops : List Model.Minima.Op) :
    (Model.Minima.afterHistory ops).minima = Model.Minima.sortDesc (Model.Minima.added ops) :=
  Proofs.Minima.history_independent ops

theorem minima_sorted_after_reset (ops : List Model.Minima.Op) :
    (Model.Minima.afterHistory ops).minima.Pairwise (fun a b => a.1 ≥ b.1) :=
  Proofs.Minima.afterHistory_sorted ops

/-- the execution starts from a scanline list that holds the y of every local minimum, ascending, and
nothing left over from earlier executions -/
theorem scanlines_after_reset (ops : List Model.Minima.Op) :
    (Model.Minima.afterHistory ops).scan =
        (Model.Minima.sortDesc (Model.Minima.added ops)).reverse.map (·.1) ∧
      (Model.Minima.afterHistory ops).cur = 0 :=
  Proofs.Minima.afterHistory_scan ops

/-- the sweep's outer loop never meets local minima out of order or twice … -/
theorem sweep_visits_prefix (extra : Int → List Int) (minima : List Model.Minima.LM)
    (h : minima.Pairwise (fun a b => a.1 ≥ b.1)) (fuel : Nat) :
    Model.Minima.sweep extra fuel minima 0 (minima.reverse.map (·.1)) <+: minima :=
  -- `h` is not needed: what has been visited is a prefix of any list
  Proofs.Minima.sweep_prefix extra minima fuel

/-- … and visits every one of them, whatever scanlines the sweep inserts on the way (`extra`; the popped
scanline strictly decreases, so the y range of the local minima bounds the number of iterations) -/
theorem sweep_visits_every_minimum (extra : Int → List Int) (m : Model.Minima.LM) (rest : List Model.Minima.LM)
    (h : (m :: rest).Pairwise (fun a b => a.1 ≥ b.1)) (fuel : Nat)
    (hf : (m.1 - ((m :: rest).getLast (by simp)).1).toNat + 1 ≤ fuel) :
    Model.Minima.sweep extra fuel (m :: rest) 0 ((m :: rest).reverse.map (·.1)) = m :: rest :=
  Proofs.Minima.sweep_visits_all extra m rest h fuel hf

end C12
