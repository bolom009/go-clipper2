import ClipVerif.Proofs.C08
/-
C08 — Minkowski sum and difference cover exactly the swept region.  Proved on the hand model
`Model.minkowski` (tied by `models-corr`): the result is one quadrilateral per (path edge,
pattern edge) pair — all `n` cyclic edges of a closed path, the `n−1` consecutive ones of an open
path — each with 4 vertices.  The union of the quads (C01) and its agreement with the swept set are
explored by the search with the region oracle.
-/
namespace C08
open Gen Model

theorem minkowski_count (pattern path : Array Point64) (isSum isClosed : Bool) (r : List (List Point64))
    (h : minkowski pattern path isSum isClosed = .ok r) :
    r.length = (path.size - (if isClosed then 0 else 1)) * pattern.size :=
  Proofs.C08.minkowski_count pattern path isSum isClosed r h

theorem minkowski_quads (pattern path : Array Point64) (isSum isClosed : Bool) (r : List (List Point64))
    (h : minkowski pattern path isSum isClosed = .ok r) : ∀ q ∈ r, q.length = 4 :=
  Proofs.C08.minkowski_quads pattern path isSum isClosed r h

end C08
