import ClipVerif.Proofs.C06
import ClipVerif.Model.RectPoly
import ClipVerif.Proofs.Rect
/-
C06 — rectangle clipping keeps exactly what is inside the rectangle.  Proved: the location algebra
and the driver's fast paths (everything the clipper decides locally); the winding equality of the
whole state machine is explored by the search with the Lean region oracle.  Statements are about
the generated `Gen.*` functions.  Location numbering: 0 Left, 1 Top, 2 Right, 3 Bottom, 4 Inside.
Of the hand model of the state machine (`Model.executePoly`, the raw rings before `checkEdges`) proved: where
the points come from, up to the zero point; no repeated neighbours; when it faults.
-/
namespace C06
open Gen

def wf (r : Rect64) : Prop := r.left ≤ r.right ∧ r.top ≤ r.bottom

/-- the flag is false exactly for points on the rectangle's boundary -/
theorem getLocation_on_boundary (r : Rect64) (p : Point64) (h : wf r) :
    (getLocation r p).2 = false ↔
      ((p.X = r.left ∨ p.X = r.right) ∧ r.top ≤ p.Y ∧ p.Y ≤ r.bottom) ∨
      ((p.Y = r.top ∨ p.Y = r.bottom) ∧ r.left ≤ p.X ∧ p.X ≤ r.right) :=
  Proofs.C06.getLocation_on_boundary r p

/-- off the boundary the location is Inside exactly for interior points, otherwise names a side
    the point lies strictly beyond -/
theorem getLocation_off_boundary (r : Rect64) (p : Point64) (h : wf r) (hb : (getLocation r p).2 = true) :
    ((getLocation r p).1 = 4 ↔ (r.left < p.X ∧ p.X < r.right ∧ r.top < p.Y ∧ p.Y < r.bottom)) ∧
    ((getLocation r p).1 = 0 → p.X < r.left) ∧ ((getLocation r p).1 = 2 → p.X > r.right) ∧
    ((getLocation r p).1 = 1 → p.Y < r.top) ∧ ((getLocation r p).1 = 3 → p.Y > r.bottom) ∧
    (0 ≤ (getLocation r p).1 ∧ (getLocation r p).1 ≤ 4) :=
  Proofs.C06.getLocation_off_boundary r p hb

/-- moving clockwise and back is the identity on the four sides; clockwise neighbours are recognised -/
theorem adjacent_location_cycle (loc : Int) (h : 0 ≤ loc ∧ loc ≤ 3) :
    getAdjacentLocation (getAdjacentLocation loc true) false = loc ∧
    getAdjacentLocation (getAdjacentLocation loc false) true = loc ∧
    headingClockwise loc (getAdjacentLocation loc true) = true ∧
    headingClockwise loc (getAdjacentLocation loc false) = false ∧
    (0 ≤ getAdjacentLocation loc true ∧ getAdjacentLocation loc true ≤ 3) :=
  Proofs.C06.adjacent_location_cycle loc h

theorem areOpposites_iff (a b : Int) (ha : 0 ≤ a ∧ a ≤ 4) (hb : 0 ≤ b ∧ b ≤ 4) :
    areOpposites a b = true ↔ (a - b = 2 ∨ b - a = 2) :=
  Proofs.C06.areOpposites_iff a b ha hb

/-- bit j of getEdgesForPt is set iff the point lies on the line carrying side j -/
theorem getEdgesForPt_spec (p : Point64) (r : Rect64) (h : r.left < r.right ∧ r.top < r.bottom) :
    (getEdgesForPt p r % 2 = 1 ↔ p.X = r.left) ∧ (getEdgesForPt p r / 2 % 2 = 1 ↔ p.Y = r.top) ∧
    (getEdgesForPt p r / 4 % 2 = 1 ↔ p.X = r.right) ∧ (getEdgesForPt p r / 8 % 2 = 1 ↔ p.Y = r.bottom) :=
  Proofs.C06.getEdgesForPt_spec p r h

/-- fast path "unchanged": if the rectangle contains the path's bounds every vertex is inside it -/
theorem contains_bounds_all_inside (r : Rect64) (path : List Point64) (hne : path ≠ [])
    (hc : Rect64_Contains r (getBounds path) = true) :
    ∀ p ∈ path, r.left ≤ p.X ∧ p.X ≤ r.right ∧ r.top ≤ p.Y ∧ p.Y ≤ r.bottom :=
  Proofs.C06.contains_bounds_all_inside r path hne hc

/-- fast path "dropped": if the rectangle does not meet the path's bounds, all vertices lie strictly
    beyond one and the same side -/
theorem not_intersects_all_outside (r : Rect64) (path : List Point64) (hne : path ≠ []) (h : wf r)
    (hc : Rect64_Intersects r (getBounds path) = false) :
    (∀ p ∈ path, p.X < r.left) ∨ (∀ p ∈ path, p.X > r.right) ∨ (∀ p ∈ path, p.Y < r.top) ∨ (∀ p ∈ path, p.Y > r.bottom) :=
  Proofs.C06.not_intersects_all_outside r path hne h hc

theorem isEmpty_iff (r : Rect64) : Rect64_IsEmpty r = true ↔ (r.bottom ≤ r.top ∨ r.right ≤ r.left) :=
  Proofs.C06.isEmpty_iff r

example : wf ⟨0, 0, 10, 10⟩ ∧ (getLocation ⟨0, 0, 10, 10⟩ ⟨5, 5⟩).2 = true := by
  refine ⟨by unfold wf; decide, by decide⟩

/-! ### The polygon state machine (model `Model.RectPoly` of `executeInternal`, tied by `models-corr rectpoly`) -/

/-- where a point of a raw result ring can come from: an input vertex lying in the closed rectangle,
    a corner of the rectangle, or the point `getSegmentIntersection` returned for an input edge and
    one side of the rectangle -/
def PolyProvenance (rect : Rect64) (path : Array Point64) (q : Point64) : Prop :=
  (q ∈ path.toList ∧ rect.left ≤ q.X ∧ q.X ≤ rect.right ∧ rect.top ≤ q.Y ∧ q.Y ≤ rect.bottom) ∨
  q ∈ Rect64_AsPath rect ∨
  (∃ a ∈ path.toList, ∃ b ∈ path.toList, ∃ c ∈ Rect64_AsPath rect, ∃ d ∈ Rect64_AsPath rect,
    (getSegmentIntersection a b c d).2 = true ∧ q = (getSegmentIntersection a b c d).1)

/-- every point of every raw ring built by `executeInternal` has such a provenance — or is the
    point (0,0).  The exception is real: the state machine ignores the "no intersection" answer at
    one site (`ip2, _ := getIntersection(…)`) and adds the zero point it got; this only happens when
    the int64 cross product inside `getSegmentIntersection` wraps (coordinates from 2^32), where it
    can also index the corner array with location Inside — the known finding
    site:int64-product-overflow (C03, C13).  The full statement without the exception is false:
    rect (2,2,8,4), path (-3,-2^31),(2^32,1),(-2^31,-1) gives the ring (0,0),(8,-2147483642),(8,2),(2,2). -/
theorem executePoly_provenance_partial (rect : Rect64) (path : Array Point64) (rings : List (List Point64))
    (h : Model.executePoly rect path = some rings) :
    ∀ ring ∈ rings, ∀ q ∈ ring, PolyProvenance rect path q ∨ q = ⟨0, 0⟩ :=
  fun ring hr => ((Proofs.Rect.executePoly_spec _ rect path (@Proofs.Rect.paths_rAdd _)
    nofun).2 rings h ring hr).2

/-- no raw ring repeats a point consecutively -/
theorem executePoly_no_adjacent_duplicates (rect : Rect64) (path : Array Point64) (rings : List (List Point64))
    (h : Model.executePoly rect path = some rings) :
    ∀ ring ∈ rings, ∀ i, i + 1 < ring.length → ring[i]! ≠ ring[i + 1]! := by
  intro ring hr
  exact Proofs.Dedup.NoAdj.iff_getElem!.1 ((Proofs.Rect.executePoly_spec _ rect path
    (@Proofs.Rect.paths_rAdd _) nofun).2 rings h ring hr).1

/-- the only way `executeInternal` can fault (index -1) is a path all of whose vertices lie on the
    rectangle's boundary — which `Execute`'s "bounds inside the rectangle" shortcut never passes on -/
theorem executePoly_fault_iff (rect : Rect64) (path : Array Point64) :
    Model.executePoly rect path = none ↔
      (3 ≤ path.size ∧ Rect64_IsEmpty rect = false ∧ ∀ p ∈ path.toList, (getLocation rect p).2 = false) :=
  Proofs.Rect.executePoly_fault_iff rect path

end C06
