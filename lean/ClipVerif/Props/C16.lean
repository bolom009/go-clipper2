import ClipVerif.Proofs.C16
import ClipVerif.Proofs.C16b
import ClipVerif.Proofs.C16c
/-
C16 — SimplifyPath removes only near-collinear vertices.  Theorems about the hand model
`Model.simplifyPath`, generic in the distance type (so they cover SimplifyPath64 and SimplifyPathD
alike, whatever the floating-point distance function returns); tied to the code by `models-corr`.
-/
namespace C16
open Gen Model

variable {D : Type} [LT D] [LE D] [DecidableRel (α := D) (· < ·)] [DecidableRel (α := D) (· ≤ ·)] [Inhabited D]

/-- paths with fewer than 4 points are returned as they are -/
theorem simplify_short (dist : Point64 → Point64 → Point64 → D) (maxD : D) (path : Array Point64) (epsSq : D)
    (closed : Bool) (h : path.size < 4) : simplifyPath dist maxD path epsSq closed = path := by
  unfold simplifyPath
  simp only [if_pos h]

/-- the result is a sub-sequence of the input -/
theorem simplify_sublist (dist : Point64 → Point64 → Point64 → D) (maxD : D) (path : Array Point64) (epsSq : D)
    (closed : Bool) : (simplifyPath dist maxD path epsSq closed).toList.Sublist path.toList :=
  Proofs.C16.simplify_sublist dist maxD path epsSq closed

/-- `getNext` returns an unflagged index when one exists -/
theorem getNext_unflagged (current high : Nat) (flags : Array Bool) (hs : flags.size = high + 1)
    (hc : current ≤ high) (hex : ∃ i, i ≤ high ∧ flags[i]! = false) :
    getNext current high flags ≤ high ∧ flags[getNext current high flags]! = false :=
  Proofs.C16.getNext_unflagged current high flags hc hex

theorem getPrior_unflagged (current high : Nat) (flags : Array Bool) (hs : flags.size = high + 1)
    (hc : current ≤ high) (hex : ∃ i, i ≤ high ∧ flags[i]! = false) :
    getPrior current high flags ≤ high ∧ flags[getPrior current high flags]! = false :=
  Proofs.C16.getPrior_unflagged current high flags hc hex

/-- one step of the removal loop flags exactly one more vertex (so the loop ends within `size` steps) -/
theorem simplifyStep_flags_one (dist : Point64 → Point64 → Point64 → D) (path : Array Point64) (epsSq : D)
    (closed : Bool) (high : Nat) (s s' : SimpState D) (h : simplifyStep dist path epsSq closed high s = some s')
    (hs : s.flags.size = high + 1) :
    s'.flags.size = s.flags.size ∧
    (s'.flags.toList.filter (· = true)).length ≤ (s.flags.toList.filter (· = true)).length + 1 :=
  Proofs.C16.simplifyStep_flags_one dist path epsSq closed high s s' h

/-- post-condition of `SimplifyPath64` (the state in which the outer loop stops): unless only two
    vertices remain, no retained vertex (end points of an open path aside) is within ε of the line
    through its two retained neighbours.  `dist` is any distance function, `D` any ordered type in
    which `epsSq < a` is the negation of `a ≤ epsSq` (true of `float64` without NaN). -/
theorem simplify_post (dist : Point64 → Point64 → Point64 → D) (maxD : D) (path : Array Point64) (epsSq : D)
    (closed : Bool) (hl : 4 ≤ path.size) (htot : ∀ a : D, epsSq < a ↔ ¬ (a ≤ epsSq))
    (hsym : ∀ p a b, dist p a b = dist p b a) :
    let s := simplifyFinal dist maxD path epsSq closed
    let high := path.size - 1
    ∀ i, i ≤ high → s.flags[i]! = false → (closed = true ∨ (i ≠ 0 ∧ i ≠ high)) →
      getNext i high s.flags ≠ getPrior i high s.flags →
      ¬ (dist path[i]! path[getPrior i high s.flags]! path[getNext i high s.flags]! ≤ epsSq) :=
  Proofs.C16b.simplify_post dist maxD path epsSq closed hl htot hsym

/-- `hsym` cannot be dropped from `simplify_post`: for a closed path the code initialises `dsq[high]`
    as `dist path[high] path[0] path[high-1]` (line points in the order next, prior), so for a distance
    that depends on the order of the two line points the cache says nothing about
    `dist path[high] path[high-1] path[0]`.  Witness: the square `(0,0) (10,0) (10,10) (0,10)`, closed, ε² = 0,
    `dist p a b = if p = (0,10) ∧ a = (10,10) then 0 else 1` — nothing is removed, yet vertex 3 is at distance 0. -/
theorem simplify_post_needs_symmetry :
    ∃ (dist : Point64 → Point64 → Point64 → Nat) (maxD : Nat) (path : Array Point64) (epsSq : Nat) (closed : Bool),
      4 ≤ path.size ∧ (∀ a : Nat, epsSq < a ↔ ¬ (a ≤ epsSq)) ∧
      ¬ (let s := simplifyFinal dist maxD path epsSq closed
         let high := path.size - 1
         ∀ i, i ≤ high → s.flags[i]! = false → (closed = true ∨ (i ≠ 0 ∧ i ≠ high)) →
           getNext i high s.flags ≠ getPrior i high s.flags →
           ¬ (dist path[i]! path[getPrior i high s.flags]! path[getNext i high s.flags]! ≤ epsSq)) :=
  Proofs.C16b.needs_symmetry

/-- the retained indices do not change under any map of the plane that preserves the distance function
    — in particular under every translation, mirror image and quarter turn when the distance is
    computed from coordinate differences: the algorithm looks at the points only through `dist`.
    (That the float64 distance of the code IS translation invariant within 2^53 is not proved — no theorem
    mentions `Float` — and is explored by c16-search.) -/
theorem simplify_map_invariant {D : Type} [LT D] [LE D] [DecidableRel (α := D) (· < ·)]
    [DecidableRel (α := D) (· ≤ ·)] [Inhabited D]
    (dist : Point64 → Point64 → Point64 → D) (maxD : D) (path : Array Point64) (epsSq : D) (isClosed : Bool)
    (f : Point64 → Point64) (hf : ∀ a b c, dist (f a) (f b) (f c) = dist a b c) :
    Model.simplifyPath dist maxD (path.map f) epsSq isClosed =
      (Model.simplifyPath dist maxD path epsSq isClosed).map f :=
  Proofs.C16c.simplify_map dist maxD path epsSq isClosed f hf

end C16
