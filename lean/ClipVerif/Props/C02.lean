import ClipVerif.Model.BuildPaths
import ClipVerif.Proofs.BuildPaths
import ClipVerif.Model.Split
import ClipVerif.Proofs.Split
import ClipVerif.Proofs.C17
import ClipVerif.Proofs.C02
import ClipVerif.Model.Out
import ClipVerif.Proofs.Out
import ClipVerif.Model.Ring
import ClipVerif.Proofs.Ring
/-
C02 — closed solutions are a canonical, non-overlapping polygon set.  The winding claim is global
and explored by the search (region oracle with the solution's own edges as band, plus Union(sol) =
sol).  Proved: the reverse-solution option emits every ring reversed, and reversing every path
negates the winding number of the whole set (so winding ∈ {0,1} becomes ∈ {0,−1} and all
orientations flip together); the "very small triangle" rejection test of path emission.
-/
namespace C02
open Gen Spec Model

theorem reverse_flips_all (sol : List (List IPt)) (p : QPt) :
    windS (sol.map List.reverse) p = - windS sol p :=
  Proofs.C17.windS_reverse_all sol p

theorem reverse_area (path : List IPt) : area2 path.reverse = - area2 path :=
  Proofs.C17.area2_reverse path

/-- `ptsReallyClose` (used by isVerySmallTriangle): both coordinate differences below 2 in magnitude -/
theorem ptsReallyClose_iff (a b : Point64) (ha : a.inRange) (hb : b.inRange) :
    ptsReallyClose a b = true ↔
      ((a.X.toInt - b.X.toInt).natAbs < 2 ∧ (a.Y.toInt - b.Y.toInt).natAbs < 2) :=
  Proofs.C02.ptsReallyClose_iff a b ha hb

/-! ### Output rings: `cleanCollinear`'s removal loop and `buildPath` (model `Model.Out`, tied by `models-corr clean|build`) -/

/-- a vertex equal to one of its ring neighbours is always removable -/
theorem removable_of_duplicate (preserve : Bool) (ring : List Point64) (i : Nat)
    (h : ringGet ring i = ringGet ring (ringPrev ring.length i) ∨
         ringGet ring i = ringGet ring (ringNext ring.length i)) :
    removable preserve ring i = true :=
  Proofs.Out.removable_of_duplicate preserve ring i h

/-- the loop of `cleanCollinear` stops only when nothing is removable any more: the ring that is
    left (if any) has at least two vertices, `outrec.pts` points into it, and no vertex is a
    duplicate of a neighbour or a 180° spike (or, without PreserveCollinear, collinear with its
    neighbours at all); the iteration bound of the model is never the reason for stopping -/
theorem clean_post (preserve : Bool) (ring : List Point64) :
    (cleanCollinearLoop preserve ring).1 = [] ∨
    (2 ≤ (cleanCollinearLoop preserve ring).1.length ∧
     (cleanCollinearLoop preserve ring).2 < (cleanCollinearLoop preserve ring).1.length ∧
     ∀ i, i < (cleanCollinearLoop preserve ring).1.length →
       removable preserve (cleanCollinearLoop preserve ring).1 i = false) :=
  Proofs.Out.clean_post preserve ring

/-- vertices are only removed, never moved or invented -/
theorem clean_sublist (preserve : Bool) (ring : List Point64) :
    (cleanCollinearLoop preserve ring).1.Sublist ring :=
  Proofs.Out.clean_sublist preserve ring

/-- `buildPath` never emits two equal consecutive points -/
theorem build_no_adjacent_duplicates (ring : List Point64) (reverse isOpen : Bool) (q : List Point64)
    (h : buildPath ring reverse isOpen = some q) :
    ∀ i, i + 1 < q.length → q[i]! ≠ q[i + 1]! :=
  Proofs.Out.build_no_adjacent_duplicates ring reverse isOpen q h

/-- on a closed ring of at least three vertices without equal neighbours `buildPath` returns the
    whole ring (from `op.next` round to `op`, or backwards from `op`), unless it is a triangle with
    two vertices within one unit of each other -/
theorem build_closed_of_clean (ring : List Point64) (reverse : Bool) (hn : 3 ≤ ring.length)
    (hnd : ∀ i, i < ring.length → ringGet ring i ≠ ringGet ring (ringNext ring.length i)) :
    buildPath ring reverse false =
      (if ring.length = 3 ∧ verySmallTriangle ring[0]! ring[1]! ring[2]! = true then none
       else some (if reverse then ring.head! :: ring.tail.reverse else ring.tail ++ [ring.head!])) :=
  Proofs.Out.build_closed_of_clean ring reverse hn hnd

/-! ### Self-intersection repair (`fixSelfIntersects` / `doSplitOp`, model `Model.Split`, tied by
`models-corr split`).  The decisions rest on float areas and are executed, not reasoned about; what is
proved is what the repair can and cannot do to a ring whatever those decisions are. -/

/-- a set of points closed under the intersection point the repair computes -/
def ClosedUnderIp (P : Point64 → Prop) : Prop :=
  ∀ a b c d, P a → P b → P c → P d → P (getSegmentIntersectPt a b c d).1

/-- provenance: every point of the repaired ring and of every ring split off it is a point of the
    original ring or an intersection point of four such points (iterated) -/
theorem fix_provenance (P : Point64 → Prop) (hP : ClosedUnderIp P) (ring : List Point64)
    (h : ∀ q ∈ ring, P q) (main : Option (List Point64)) (news : List (List Point64))
    (hr : fixSelfIntersects ring = some (main, news)) :
    (∀ r, main = some r → ∀ q ∈ r, P q) ∧ (∀ t ∈ news, ∀ q ∈ t, P q) :=
  Proofs.Split.fix_provenance P hP ring h main news hr

/-- every record the repair creates is a triangle -/
theorem fix_new_records_are_triangles (ring : List Point64) (main : Option (List Point64))
    (news : List (List Point64)) (hr : fixSelfIntersects ring = some (main, news)) :
    ∀ t ∈ news, t.length = 3 :=
  Proofs.Split.fix_new_records_are_triangles ring main news hr

/-- a split always shortens the ring it is applied to (by one or two vertices) -/
theorem split_shortens (a b c d : Point64) (rest m : List Point64) (t : Option (List Point64))
    (h : doSplitOp a b c d rest = (some m, t)) :
    m.length + 1 ≤ rest.length + 4 ∧ rest.length + 2 ≤ m.length :=
  Proofs.Split.split_shortens a b c d rest m t h

/-- a ring none of whose edges crosses the next-but-one edge is returned as it is, and no record is created -/
theorem fix_leaves_clean_rings_alone (ring : List Point64) (hne : ring ≠ [])
    (hclean : ∀ i, i < ring.length →
      segsIntersect ring.toArray[(i + ring.length - 1) % ring.length]! ring.toArray[i]!
        ring.toArray[(i + 1) % ring.length]! ring.toArray[(i + 2) % ring.length]! false = false) :
    fixSelfIntersects ring = some (some ring, []) :=
  Proofs.Split.fix_leaves_clean_rings_alone ring hne hclean

/- Non-vacuity cannot be shown by `decide` (the model evaluates float areas, which the kernel does not
   reduce); it is shown by execution: `fixSelfIntersects [(0,0),(10,0),(12,12),(9,-3),(0,10)]` evaluates to
   `some (some [(0,0),(6,0),(0,10)], [[(9,0),(10,0),(12,12)]])`, and of 100,000 `models-corr split`
   probes 52 % shorten the ring, 37 % create records, 12 % drop the ring, 4 % take the micro shortcut. -/

/-! ### The whole post-sweep pipeline (`Model.BuildPaths`: `cleanCollinear` + the `buildPaths` loop, tied by
`models-corr buildpaths`) -/

/-- provenance of the closed solution: every vertex of every emitted path is a point of one of the output
    records the sweep left, or an intersection point of four such points (iterated) — whatever the float
    decisions of the repair are, and including the records created while the loop runs -/
theorem buildPaths_provenance (P : Point64 → Prop) (hP : ClosedUnderIp P) (preserve reverse : Bool)
    (recs : List (List Point64)) (h : ∀ r ∈ recs, ∀ q ∈ r, P q) (out : List (List Point64))
    (ho : buildPaths preserve reverse recs = some out) :
    ∀ p ∈ out, ∀ q ∈ p, P q :=
  Proofs.BuildPaths.buildPaths_provenance P hP preserve reverse recs h out ho

/-- `cleanCollinear` as a whole: same statement for one record -/
theorem cleanCollinear_provenance (P : Point64 → Prop) (hP : ClosedUnderIp P) (preserve : Bool)
    (ring : List Point64) (h : ∀ q ∈ ring, P q) (main : Option (List Point64)) (news : List (List Point64))
    (hr : cleanCollinear preserve ring = some (main, news)) :
    (∀ r, main = some r → ∀ q ∈ r, P q) ∧ (∀ t ∈ news, ∀ q ∈ t, P q) :=
  Proofs.BuildPaths.cleanCollinear_provenance P hP preserve ring h main news hr

/-- the syntactic half of "canonical" for the whole pipeline: no emitted path has two equal consecutive
    vertices, whatever the records looked like and whatever the repair did to them -/
theorem buildPaths_no_adjacent_duplicates (preserve reverse : Bool) (recs : List (List Point64))
    (out : List (List Point64)) (ho : buildPaths preserve reverse recs = some out) :
    ∀ p ∈ out, ∀ i, i + 1 < p.length → p[i]! ≠ p[i + 1]! :=
  Proofs.BuildPaths.buildPaths_no_adjacent_duplicates preserve reverse recs out ho

/-! ### Assembly of output rings during the sweep (model `Model.Ring` of `addLocalMinPoly`, `addOutPt`,
`addLocalMaxPoly`, `joinOutrecPaths`, `swapOutrecs`, `setOwner`; a state machine over the hot / cold edges and
the table of output records, tied by `models-corr ring`).  A ring under construction stands for the open
polyline `path ring` from its front tip to its back tip. -/

/-- every state reached by operations the sweep can issue (local minima on two different cold edges,
points on hot edges, local maxima on two different hot edges) keeps hot edges and output records coupled:
a hot edge's record exists, has points and names the edge as its front or back edge; the front / back edge
of a record is a hot edge of that record; front and back edge differ -/
theorem ring_coupling_invariant (usingTree : Bool) (n : Nat) (s : Model.Ring.St)
    (h : Proofs.Ring.Reachable usingTree n s) :
    Proofs.Ring.invB s = true ∧ s.edgeRec.length = n := by
  obtain ⟨hi, hn⟩ := Proofs.Ring.reachable_spec usingTree n s h
  exact ⟨(Proofs.Ring.invB_iff s).mpr hi, hn⟩

/-- one step of the above -/
theorem ring_step_invariant (usingTree : Bool) (s s' : Model.Ring.St) (op : Model.Ring.Op)
    (hi : Proofs.Ring.invB s = true) (hv : Proofs.Ring.validB s op = true)
    (h : Model.Ring.step usingTree s op = some s') :
    Proofs.Ring.invB s' = true ∧ s'.edgeRec.length = s.edgeRec.length := by
  obtain ⟨s'', h', hi', hl⟩ := Proofs.Ring.step_spec usingTree ((Proofs.Ring.invB_iff s).mp hi) hv
  cases h.symm.trans h'
  exact ⟨(Proofs.Ring.invB_iff s').mpr hi', hl⟩

/-- `addOutPt` on the front edge: the polyline grows at its head, unless the point repeats the tip -/
theorem addOutPt_front (f : Point64) (rest : List Point64) (p : Point64) :
    Model.Ring.path (Model.Ring.addPtRing (f :: rest) true p).1 =
      if p = f then Model.Ring.path (f :: rest) else p :: Model.Ring.path (f :: rest) :=
  Proofs.Ring.addPtRing_front_path f rest p

/-- `addOutPt` on the back edge: the polyline grows at its end, unless the point repeats the tip -/
theorem addOutPt_back (f : Point64) (rest : List Point64) (p : Point64) :
    Model.Ring.path (Model.Ring.addPtRing (f :: rest) false p).1 =
      if p = (Model.Ring.path (f :: rest)).getLast (by simp [Model.Ring.path]) then Model.Ring.path (f :: rest)
      else Model.Ring.path (f :: rest) ++ [p] :=
  Proofs.Ring.addPtRing_back_path f rest p

/-- the `OutPt` that `addOutPt` returns carries the point it was given (position 0 = front tip, 1 = back tip) -/
theorem addOutPt_result (f : Point64) (rest : List Point64) (toFront : Bool) (p : Point64) :
    ((Model.Ring.addPtRing (f :: rest) toFront p).1.rotateLeft
      (Model.Ring.addPtRing (f :: rest) toFront p).2).head? = some p :=
  Proofs.Ring.addPtRing_result f rest toFront p

/-- `joinOutrecPaths` splices two polylines tip to tip — no point is lost, duplicated or reordered: the
second record's polyline goes in front of the first's when the first edge is its record's front edge,
behind it otherwise; the second record is emptied; no other ring changes -/
theorem joinOutrecPaths_splices (s s' : Model.Ring.St) (e1 e2 r1 r2 : Nat)
    (h1 : s.recOf e1 = some r1) (h2 : s.recOf e2 = some r2) (hne : r1 ≠ r2)
    (hr1 : r1 < s.recs.length) (hr2 : r2 < s.recs.length)
    (h : Model.Ring.joinOutrecPaths s e1 e2 = some s') :
    Model.Ring.path (s'.getRec r1).pts =
      (if (s.getRec r1).front = some e1 then Model.Ring.path (s.getRec r2).pts ++ Model.Ring.path (s.getRec r1).pts
       else Model.Ring.path (s.getRec r1).pts ++ Model.Ring.path (s.getRec r2).pts) ∧
    (s'.getRec r2).pts = [] ∧
    (∀ r, r ≠ r1 → r ≠ r2 → (s'.getRec r).pts = (s.getRec r).pts) := by
  -- `hr1`, `hr2` are not used: `h` already says that both records exist
  have hj := Proofs.Ring.joinOutrecPaths_spec h1 h2 hne rfl h
  exact ⟨by simpa using hj.path_r1, hj.pts_r2, fun r hrr1 hrr2 => hj.pts_other r (Ne.symm hrr2) (Ne.symm hrr1)⟩

end C02
