import ClipVerif.Proofs.C14
import ClipVerif.Proofs.Bounds
import ClipVerif.Proofs.Area
import ClipVerif.Model.PIP
import ClipVerif.Model.Conv
import ClipVerif.Proofs.PIP
/-
C14 — geometric measures and predicates are exact.  Theorems only; helper lemmas are under
`ClipVerif/Proofs/`.  All statements are about the *generated* model `Gen.*`
(regenerated from /repo on every run).
-/
namespace C14
open Gen

/-- 128-bit product of two 64-bit words is exact for all operands -/
theorem mulU64_correct (a b : UInt64) :
    (multiplyUInt64 a b).Hi64.toNat * 2 ^ 64 + (multiplyUInt64 a b).Lo64.toNat = a.toNat * b.toNat :=
  Proofs.C14.mulU64_correct a b

/-- `triSign` is the sign function — FALSE on the current tree (KNOWN_FINDINGS: site:triSign-plus-one).
    The full statement is kept visible; its negation is proved with the witness x = 1. -/
def triSign_spec_full : Prop :=
  ∀ x : Int64, triSign x = if x.toInt < 0 then -1 else if x.toInt = 0 then 0 else 1

theorem triSign_spec_full_false : ¬ triSign_spec_full := Proofs.C14.triSign_spec_full_false

/-- what does hold: sign function everywhere except at x = 1 -/
theorem triSign_spec_partial (x : Int64) (h1 : x ≠ 1) :
    triSign x = if x.toInt < 0 then -1 else if x.toInt = 0 then 0 else 1 :=
  Proofs.C14.triSign_spec_partial x h1

/-- products are compared exactly (operands below 2^53 so that the float64 detour is exact);
    partial: no operand equal to +1 (triSign defect) -/
theorem productsAreEqual_iff_partial (a b c d : Int64)
    (ha : a.toInt.natAbs ≤ 2 ^ 53) (hb : b.toInt.natAbs ≤ 2 ^ 53)
    (hc : c.toInt.natAbs ≤ 2 ^ 53) (hd : d.toInt.natAbs ≤ 2 ^ 53)
    (h1 : a ≠ 1 ∧ b ≠ 1 ∧ c ≠ 1 ∧ d ≠ 1) :
    productsAreEqual a b c d = true ↔ a.toInt * b.toInt = c.toInt * d.toInt :=
  Proofs.C14.productsAreEqual_iff_partial a b c d ha hb hc hd h1

/-- the full-strength statement is false today: witness (1, -2, 2, 1) -/
theorem productsAreEqual_iff_full_false :
    ¬ (∀ a b c d : Int64, a.toInt.natAbs ≤ 2 ^ 53 → b.toInt.natAbs ≤ 2 ^ 53 →
        c.toInt.natAbs ≤ 2 ^ 53 → d.toInt.natAbs ≤ 2 ^ 53 →
        (productsAreEqual a b c d = true ↔ a.toInt * b.toInt = c.toInt * d.toInt)) := by
  intro h
  have := (h 1 (-2) 2 1 (by decide) (by decide) (by decide) (by decide)).mp (by decide)
  revert this
  decide

/-- three points are collinear for the library iff their exact integer cross product is zero
    (coordinates within 2^29); partial: no coordinate difference handed to the sign function is +1 -/
theorem isCollinear_iff_cross_zero_partial (p1 p2 p3 : Point64)
    (h1 : p1.inRange) (h2 : p2.inRange) (h3 : p3.inRange)
    (hne : p2.X - p1.X ≠ 1 ∧ p3.Y - p2.Y ≠ 1 ∧ p2.Y - p1.Y ≠ 1 ∧ p3.X - p2.X ≠ 1) :
    isCollinear p1 p2 p3 = true ↔ crossZ p1 p2 p3 = 0 :=
  Proofs.C14.isCollinear_iff_cross_zero_partial p1 p2 p3 h1 h2 h3 hne

/-- replayed on the real code: isCollinear((0,0),(1,2),(2,0)) = true although the cross product is −4 -/
theorem isCollinear_full_false :
    isCollinear ⟨0, 0⟩ ⟨1, 2⟩ ⟨2, 0⟩ = true ∧ crossZ ⟨0, 0⟩ ⟨1, 2⟩ ⟨2, 0⟩ = -4 :=
  Proofs.C14.isCollinear_full_false

/-- the float64 returned by CrossProduct has the sign (and zero-ness) of the exact cross product -/
theorem crossProduct_sign (p1 p2 p3 : Point64) (h1 : p1.inRange) (h2 : p2.inRange) (h3 : p3.inRange) :
    (CrossProduct p1 p2 p3 = 0 ↔ crossZ p1 p2 p3 = 0) ∧
    (CrossProduct p1 p2 p3 < 0 ↔ crossZ p1 p2 p3 < 0) ∧
    (CrossProduct p1 p2 p3 > 0 ↔ crossZ p1 p2 p3 > 0) :=
  Proofs.C14.crossProduct_sign p1 p2 p3 h1 h2 h3

/-- Area64's integer accumulator is the exact doubled shoelace sum reduced mod 2^64, for every
    path of every length and whatever the intermediate wrap-arounds -/
theorem area64_accumulator (path : List Point64) (h : 3 ≤ path.length) :
    Area64 path = .ok (Int64.ofInt (Spec.area2 (pathToI path))) :=
  Proofs.C14.area64_accumulator path h

/-- hence exact whenever the true sum fits in 64 bits -/
theorem area64_exact (path : List Point64) (h : 3 ≤ path.length)
    (hfit : -(2:Int)^63 ≤ Spec.area2 (pathToI path) ∧ Spec.area2 (pathToI path) < (2:Int)^63) :
    ∃ a, Area64 path = .ok a ∧ a.toInt = Spec.area2 (pathToI path) :=
  Proofs.C14.area64_exact path h hfit

theorem area64_short (path : List Point64) (h : path.length < 3) : Area64 path = .ok 0 :=
  Proofs.C14.area64_short path h

/-- getBounds returns the exact extremes of a non-empty path -/
theorem getBounds_exact (path : List Point64) (hne : path ≠ []) :
    let r := getBounds path
    (∀ p ∈ path, r.left ≤ p.X ∧ p.X ≤ r.right ∧ r.top ≤ p.Y ∧ p.Y ≤ r.bottom) ∧
    (∃ p ∈ path, p.X = r.left) ∧ (∃ p ∈ path, p.X = r.right) ∧
    (∃ p ∈ path, p.Y = r.top) ∧ (∃ p ∈ path, p.Y = r.bottom) :=
  Proofs.C14.getBounds_exact path hne

/-- GetBounds64 likewise (coordinates in range, so the MaxInt64 sentinel is never a coordinate) -/
theorem GetBounds64_exact (path : List Point64) (hne : path ≠ []) (hr : ∀ p ∈ path, p.inRange) :
    let r := GetBounds64 path
    (∀ p ∈ path, r.left ≤ p.X ∧ p.X ≤ r.right ∧ r.top ≤ p.Y ∧ p.Y ≤ r.bottom) ∧
    (∃ p ∈ path, p.X = r.left) ∧ (∃ p ∈ path, p.X = r.right) ∧
    (∃ p ∈ path, p.Y = r.top) ∧ (∃ p ∈ path, p.Y = r.bottom) :=
  Proofs.C14.GetBounds64_exact path hne hr

theorem GetBounds64_empty : GetBounds64 [] = ⟨0, 0, 0, 0⟩ := Proofs.C14.GetBounds64_empty

/-- non-vacuity: a concrete triple meets the hypotheses of the collinearity theorem -/
example : (⟨0, 0⟩ : Point64).inRange ∧ (⟨2, 4⟩ : Point64).inRange ∧
    ((⟨2, 4⟩ : Point64).X - (⟨0, 0⟩ : Point64).X ≠ 1) := by
  refine ⟨by unfold Point64.inRange; decide, by unfold Point64.inRange; decide, by decide⟩

/-- `PointInPolygon` is exact (even-odd sense) within the coordinate domain: IsOn (0) exactly on the
    boundary, IsInside (1) exactly where the winding number is odd, IsOutside (2) elsewhere — for
    every polygon of at least three vertices that is not contained in the horizontal line through
    the point.  About the hand model `Model.pointInPolygon` (tied by `models-corr pip`), which calls
    the generated `CrossProduct`. -/
theorem pip_correct (pt : Point64) (poly : Array Point64)
    (hp : pt.inRange) (hr : ∀ q ∈ poly.toList, q.inRange) (h3 : 3 ≤ poly.size)
    (hflat : ∃ q ∈ poly.toList, q.Y ≠ pt.Y) :
    Model.pointInPolygon pt poly =
      (if Spec.onPath (pathToI poly.toList) ⟨(pt.X.toInt : Rat), (pt.Y.toInt : Rat)⟩ then 0
       else if Spec.wind (pathToI poly.toList) ⟨(pt.X.toInt : Rat), (pt.Y.toInt : Rat)⟩ % 2 ≠ 0 then 1 else 2) :=
  Proofs.PIP.pip_correct pt poly hp hr h3 hflat

/-- `segsIntersect` (exclusive form, used by `fixSelfIntersects`) is exact within the coordinate
    domain: it holds exactly when the end points of each segment lie strictly on opposite sides of
    the other segment's line, by exact integer cross products -/
theorem segsIntersect_exclusive_exact (a b c d : Point64)
    (ha : a.inRange) (hb : b.inRange) (hc : c.inRange) (hd : d.inRange) :
    segsIntersect a b c d false = true ↔
      (crossZ a c d * crossZ b c d < 0 ∧ crossZ c a b * crossZ d a b < 0) :=
  Proofs.C14c.segsIntersect_exclusive_exact a b c d ha hb hc hd

/-- the inclusive form: no strict same-side pair, and not all four cross products zero -/
theorem segsIntersect_inclusive_exact (a b c d : Point64)
    (ha : a.inRange) (hb : b.inRange) (hc : c.inRange) (hd : d.inRange) :
    segsIntersect a b c d true = true ↔
      (¬ (0 < crossZ a c d * crossZ b c d) ∧ ¬ (0 < crossZ c a b * crossZ d a b) ∧
       ¬ (crossZ a c d = 0 ∧ crossZ b c d = 0 ∧ crossZ c a b = 0 ∧ crossZ d a b = 0)) :=
  Proofs.C14c.segsIntersect_inclusive_exact a b c d ha hb hc hd

end C14
