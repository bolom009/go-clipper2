import ClipVerif.Proofs.C05
import ClipVerif.Model.Offset
import ClipVerif.Proofs.Offset
import ClipVerif.Proofs.OffsetPlan
import ClipVerif.Model.OffsetGeom
import ClipVerif.Proofs.OffsetGeom
/-
C05 — polygon offsetting grows/shrinks the region by delta.  The metric claims depend on
`math.Sin/Cos/Acos/Atan2` and float rounding and are explored by the sampling search with the exact
Lean judge.  Proved: the |delta| < 0.5 branch returns the group's paths after `StripDuplicates`,
whose model satisfies: sub-sequence, no two consecutive equal points, and for closed paths last ≠ first.
-/
namespace C05
open Gen Model Proofs.Dedup

theorem strip_sublist (path : List Point64) (closed : Bool) : (stripDuplicates path closed).Sublist path :=
  Proofs.C05.strip_sublist path closed

theorem strip_no_adjacent_dups (path : List Point64) (closed : Bool) :
    ∀ i, (h : i + 1 < (stripDuplicates path closed).length) →
      (stripDuplicates path closed)[i] ≠ (stripDuplicates path closed)[i + 1] :=
  Proofs.C05.strip_no_adjacent_dups path closed

theorem strip_closed_ends_differ (path : List Point64) (h : 1 < (stripDuplicates path true).length) :
    (stripDuplicates path true).head? ≠ (stripDuplicates path true).getLast? :=
  Proofs.C05.strip_closed_ends_differ path h

/-- a path without repeated points is returned unchanged — except a ONE-point closed path, which
    StripDuplicates empties (its only point "equals the first point" and is removed): the statement
    without `h3` is false, witness `[⟨0,0⟩]` (Proofs.C05.strip_id_counterexample); replayed on the real
    code by the models-corr stage, which compares StripDuplicates with this model on such inputs -/
theorem strip_id_partial (path : List Point64) (closed : Bool)
    (h1 : ∀ i, (h : i + 1 < path.length) → path[i] ≠ path[i + 1])
    (h2 : closed = true → 1 < path.length → path.head? ≠ path.getLast?)
    (h3 : closed = true → path.length ≠ 1) :
    stripDuplicates path closed = path := by
  rw [stripDuplicates_eq, dedup_id path (NoAdj.iff_getElem.2 h1)]
  split
  · next hc =>
    match path, h2 hc, h3 hc with
    | [], _, _ => rfl
    | [_], _, h3 => exact absurd rfl h3
    | _ :: _ :: _, h2, _ => exact unclose_of_ne (Ne.symm (h2 (by simp)))
  · rfl

theorem strip_one_point_closed_emptied : stripDuplicates [(⟨0, 0⟩ : Point64)] true = [] := by decide

/-! ### `GetLowestPathInfo` (model `Model.lowestPathInfo`, tied by `models-corr lowest`): which path
decides the orientation of a polygon group -/

/-- the reported orientation is that of the reported path, whose area is not zero -/
theorem lowest_orientation (area : List Point64 → Int) (paths : List (List Point64)) (i : Nat)
    (h : (Model.lowestPathInfo area paths).1 = (i : Int)) :
    i < paths.length ∧ area paths[i]! ≠ 0 ∧
    (Model.lowestPathInfo area paths).2 = decide (area paths[i]! < 0) :=
  Proofs.Offset.lowest_orientation area paths i h

/-- the reported path holds a point that no point of any path of non-zero area lies below (larger
    Y) or, at the same height, strictly left of -/
theorem lowest_is_lowest (area : List Point64 → Int) (paths : List (List Point64)) (i : Nat)
    (h : (Model.lowestPathInfo area paths).1 = (i : Int)) :
    ∃ b ∈ paths[i]!, ∀ p ∈ paths, area p ≠ 0 → ∀ q ∈ p, q.Y < b.Y ∨ (q.Y = b.Y ∧ q.X ≥ b.X) :=
  Proofs.Offset.lowest_is_lowest area paths i h

/-- no path is reported exactly when every path of non-zero area is empty (or only has points at
    the extreme sentinel position) -/
theorem lowest_none (area : List Point64 → Int) (paths : List (List Point64))
    (h : (Model.lowestPathInfo area paths).1 = -1) :
    ∀ p ∈ paths, area p ≠ 0 → ∀ q ∈ p, q.Y = Int64.minValue ∧ q.X = Int64.maxValue :=
  Proofs.Offset.lowest_none area paths h

/-! ### The decisions of `InflatePaths64` (model `Model.offsetPlan`, tied by `models-corr offplan` through the
event recorder): which delta a group gets and how the final union is configured -/

/-- `|delta| < 0.5` returns the stripped input paths and nothing else happens -/
theorem offsetPlan_small_delta (sd : List Point64 → Bool → List Point64) (area : List Point64 → Int)
    (paths : List (List Point64)) (delta : Float) (jt et : Nat) (rev pc : Bool)
    (hne : paths ≠ []) (hd : delta.abs < 0.5) :
    Model.offsetPlan sd area paths delta jt et rev pc = [Model.OffEv.passThrough] := by
  unfold Model.offsetPlan
  rw [List.isEmpty_eq_false_iff.2 hne]
  simp only [Bool.false_eq_true, if_false]
  rw [if_pos hd]

/-- polygons: the group is offset by `delta` when the path holding the lowest point is positively
    oriented and by `-delta` when it is negatively oriented (so that a positive delta always grows
    the filled region), and the final union uses the matching fill rule (Positive / Negative) and
    orientation of the result -/
theorem offsetPlan_polygon (sd : List Point64 → Bool → List Point64) (area : List Point64 → Int)
    (paths : List (List Point64)) (delta : Float) (jt : Nat) (rev pc : Bool)
    (hne : paths ≠ []) (hd : ¬ delta.abs < 0.5) (i : Nat)
    (hi : (Model.lowestPathInfo area (paths.map (fun p => sd p true))).1 = (i : Int)) :
    let neg := decide (area ((paths.map (fun p => sd p true))[i]!) < 0)
    ∃ evs, Model.offsetPlan sd area paths delta jt 0 rev pc =
      [Model.OffEv.group (if neg then -delta else delta) 0 jt (i : Int) neg] ++ evs ++
      [Model.OffEv.union (if neg then 3 else 2) (rev != neg) pc] :=
  Proofs.OffsetPlan.polygon sd area paths delta jt rev pc hne hd i hi

/-- open end types: the stroke half-width is `|delta|` whatever its sign, the union is Positive -/
theorem offsetPlan_open (sd : List Point64 → Bool → List Point64) (area : List Point64 → Int)
    (paths : List (List Point64)) (delta : Float) (jt et : Nat) (rev pc : Bool)
    (hne : paths ≠ []) (hd : ¬ delta.abs < 0.5) (het : et ≠ 0) :
    ∃ evs, Model.offsetPlan sd area paths delta jt et rev pc =
      [Model.OffEv.group delta.abs et jt (-1) false] ++ evs ++ [Model.OffEv.union 2 rev pc] := by
  unfold Model.offsetPlan
  rw [List.isEmpty_eq_false_iff.2 hne]
  simp only [Bool.false_eq_true, if_false]
  rw [if_neg hd]
  simp only [het, false_or, false_and, if_false, decide_false, Bool.bne_false]
  exact ⟨_, rfl⟩

/-- a two-point path of a Joined group is stroked with square (or, for round joins, round) ends,
    and this choice does not affect the other paths of the group -/
theorem offsetPlan_path_dispatch (sd : List Point64 → Bool → List Point64) (area : List Point64 → Int)
    (paths : List (List Point64)) (delta : Float) (jt et : Nat) (rev pc : Bool) (cnt e : Nat) (pts : List Point64)
    (h : Model.OffEv.path cnt e pts ∈ Model.offsetPlan sd area paths delta jt et rev pc) :
    cnt = pts.length ∧ 1 ≤ cnt ∧
    e = (if cnt = 2 ∧ et = 1 then (if jt = 3 then 4 else 3) else et) :=
  Proofs.OffsetPlan.path_dispatch sd area paths delta jt et rev pc cnt e pts h

/-! ### The raw offset ring (`Model.OffsetGeom`: getUnitNormal … doSquare, tied bit for bit by
`models-corr offraw`).  The float values are executed, not reasoned about; what is proved is the shape
of the output: every input vertex contributes at most three points (the concave branch), one for a
miter, two for a bevel or a square join, none for a repeated vertex. -/

theorem offsetPoint_emits_at_most_three (c : OffCfg) (path : Array Point64) (normals : Array PointD) (j k : Nat) :
    (offsetPoint c path normals j k).1.length ≤ 3 :=
  Proofs.OffsetGeom.offsetPoint_len c path normals j k

theorem join_sizes (c : OffCfg) (path : Array Point64) (normals : Array PointD) (j k : Nat) (cosA : Float) :
    (doMiter c path normals j k cosA).length = 1 ∧ (doBevel c path normals j k).length = 2 ∧
    (doSquare c path normals j k).length = 2 :=
  ⟨Proofs.OffsetGeom.doMiter_len c path normals j k cosA, Proofs.OffsetGeom.doBevel_len c path normals j k,
   Proofs.OffsetGeom.doSquare_len c path normals j k⟩

theorem offsetPolygon_size (c : OffCfg) (path : Array Point64) :
    (offsetPolygon c path).length ≤ 3 * path.size := by
  unfold offsetPolygon
  have := Proofs.OffsetGeom.fold_len c path (buildNormals path) (List.range path.size) [] (path.size - 1)
  simpa using this

end C05
