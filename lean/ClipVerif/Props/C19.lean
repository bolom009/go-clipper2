import ClipVerif.Proofs.C19
/-
C19 — the four boolean operations are mutually consistent.  The identities hold pointwise for the
specification `Spec.combine`; with C01 they transfer to the computed regions outside the rounding
band.  The search stage checks them on the computed solutions face by face.
-/
namespace C19
open Spec

def b2n (b : Bool) : Nat := if b then 1 else 0

/-- [U] + [I] = [S] + [C] pointwise -/
theorem area_identity (s c : Bool) : b2n (combine 2 s c) + b2n (combine 1 s c) = b2n s + b2n c :=
  Proofs.C19.area_identity s c

theorem xor_is_union_minus_intersection (s c : Bool) : combine 4 s c = (combine 2 s c && !combine 1 s c) :=
  Proofs.C19.xor_is_union_minus_intersection s c

theorem difference_is_subject_minus_intersection (s c : Bool) : combine 3 s c = (s && !combine 1 s c) :=
  Proofs.C19.difference_is_subject_minus_intersection s c

/-- D(S,C), I, D(C,S) are pairwise disjoint and together make up U -/
theorem partition_of_union (s c : Bool) :
    (combine 3 s c && combine 1 s c) = false ∧ (combine 3 s c && combine 3 c s) = false ∧
    (combine 1 s c && combine 3 c s) = false ∧
    combine 2 s c = (combine 3 s c || combine 1 s c || combine 3 c s) :=
  Proofs.C19.partition_of_union s c

/-- union with an empty clip set is the subject region itself -/
theorem union_empty_clip (fr : Nat) (wS : Int) : specIn 2 fr wS 0 = filled fr wS :=
  Proofs.C19.union_empty_clip fr wS

end C19
