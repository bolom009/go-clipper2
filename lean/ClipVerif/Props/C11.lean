import ClipVerif.Proofs.C06
import ClipVerif.Facts.Tables
import ClipVerif.Model.RectLine
import ClipVerif.Proofs.Rect
/-
C11 — rectangle clipping of lines.  Proved: the line clipper dispatches to its own line state
machine (a fact about the regenerated method table: before the repair `RectClipLines64` had no
`Execute` of its own and inherited the polygon clipper's), plus the location algebra shared with
C06 (Props/C06).  The line state machine itself is explored by the search with the 1-D coverage oracle; of its
hand model (`Model.executeLine`) proved: where result points come from, no repeated neighbours, and that
`Execute` returns no path of fewer than two points.
-/
namespace C11
open Gen

/-- `RectClipLines64` declares its own `Execute` -/
theorem linesExecute_uses_line_machine :
    ∃ ms, ("RectClipLines64", ms) ∈ Facts.ownMethods ∧ "Execute" ∈ ms :=
  ⟨["Execute"], by decide +kernel⟩

/-- and the polygon clipper still owns the line state machine it calls -/
theorem line_machine_exists :
    ∃ ms, ("RectClip64", ms) ∈ Facts.ownMethods ∧ "executeInternalPath64" ∈ ms ∧ "executeInternal" ∈ ms :=
  ⟨["Execute", "add", "addCorner", "addCornerLocation", "checkEdges", "executeInternal", "executeInternalPath64", "getNextLocation", "path1ContainsPath2", "tidyEdgePair"], by decide +kernel⟩

/-! ### The line machine (model `Model.RectLine` of `executeInternalPath64`, tied by `models-corr rectline`) -/

/-- where a result point can come from: an input vertex lying in the closed rectangle, or the point
    `getSegmentIntersection` returned for an input edge and one side of the rectangle -/
def LineProvenance (rect : Rect64) (path : Array Point64) (q : Point64) : Prop :=
  (q ∈ path.toList ∧ rect.left ≤ q.X ∧ q.X ≤ rect.right ∧ rect.top ≤ q.Y ∧ q.Y ≤ rect.bottom) ∨
  (∃ a ∈ path.toList, ∃ b ∈ path.toList, ∃ c ∈ Rect64_AsPath rect, ∃ d ∈ Rect64_AsPath rect,
    (getSegmentIntersection a b c d).2 = true ∧ q = (getSegmentIntersection a b c d).1)

/-- every point of every result path of the line machine has such a provenance: nothing else is
    ever emitted (no vertex outside the rectangle, no invented point) -/
theorem executeLine_provenance (rect : Rect64) (path : Array Point64)
    (hw : rect.left < rect.right ∧ rect.top < rect.bottom) :
    ∀ ring ∈ Model.executeLine rect path, ∀ q ∈ ring, LineProvenance rect path q :=
  fun ring hr =>
    (Proofs.Rect.executeLine_inv _ rect path (@Proofs.Rect.paths_rAdd _) nofun ring hr).2

/-- no result path repeats a point consecutively -/
theorem executeLine_no_adjacent_duplicates (rect : Rect64) (path : Array Point64) :
    ∀ ring ∈ Model.executeLine rect path, ∀ i, i + 1 < ring.length → ring[i]! ≠ ring[i + 1]! := by
  intro ring hr
  exact Proofs.Dedup.NoAdj.iff_getElem!.1 (Proofs.Rect.executeLine_inv _ rect path
    (@Proofs.Rect.paths_rAdd _) nofun ring hr).1

/-- `RectClipLines64.Execute` returns only paths of at least two points -/
theorem rectClipLines_min_two (rect : Rect64) (paths : List (List Point64)) :
    ∀ q ∈ Model.rectClipLines rect paths, 2 ≤ q.length :=
  Proofs.Rect.rectClipLines_min_two rect paths

end C11
