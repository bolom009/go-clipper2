import ClipVerif.Proofs.C07
import ClipVerif.Facts.Tables
/-
C07 — floating-point API equals the integer API on quantised input.  Proved over the regenerated
wrapper table `Facts.wrappers` (complete finite table: every exported function or method that takes
or returns a floating-point path type): every entry point that computes a scale validates the
precision first, scales inputs by `scale`, results by its inverse, and scalars by `scale`; and the
generated `checkPrecision` rejects exactly the precisions outside [-8, 8].  The exact numeric
equality is explored by the Go-vs-Go search stage.
-/
namespace C07
open Facts Gen

/-- rows that compute their own scale from a precision -/
def scaling (w : Wrapper) : Bool := w.scaleDef != ""

def canonicalRow (w : Wrapper) : Bool :=
  w.validatesPrecision &&
  (w.scaleDef.startsWith "math.Pow(10,float64(") &&
  w.inScales.all (· == "scale") &&
  w.outScales.all (fun s => s == "1/scale" || s == "1.0/scale") &&
  w.scaledScalars.all (fun s => s == "delta*scale" || s == "scale*cfg.arcTolerance")

/-- every scaling entry point (other than the constructor, which only stores scale and 1/scale) is canonical -/
theorem wrappers_canonical :
    ∀ w ∈ wrappers, scaling w = true → w.name ≠ "NewClipperD" → canonicalRow w = true := by
  decide +kernel

/-- the engine constructor validates, and the engine methods use the stored scale / inverse scale -/
theorem engine_rows :
    (∃ w ∈ wrappers, w.name = "NewClipperD" ∧ w.validatesPrecision = true) ∧
    (∃ w ∈ wrappers, w.name = "clipperD.AddPaths" ∧ w.inScales = ["c.scale"] ∧ w.outScales = []) ∧
    (∃ w ∈ wrappers, w.name = "clipperD.ExecuteOC" ∧ w.inScales = [] ∧ w.outScales = ["c.invScale", "c.invScale"]) ∧
    (∃ w ∈ wrappers, w.name = "clipperD.ExecutePolyTreeD" ∧ w.inScales = ["tree:c.scale"] ∧ w.outScales = ["c.invScale"]) := by
  decide +kernel

/-- the D entry points that reach a 64-bit operation all appear as scaling rows or delegate to one -/
theorem entry_points_present :
    ∀ n ∈ ["InflatePathsD", "MinkowskiSumD", "MinkowskiDiffD", "RectClipPathsD", "RectClipLinesPathsD", "TrimCollinearD"],
      ∃ w ∈ wrappers, w.name = n ∧ scaling w = true := by
  decide +kernel

/-- the documented precision range -/
theorem checkPrecision_iff (p : Int) : checkPrecision p = .ok () ↔ (-8 ≤ p ∧ p ≤ 8) :=
  Proofs.C07.checkPrecision_iff p

theorem checkPrecision_rejects (p : Int) (h : p < -8 ∨ 8 < p) : checkPrecision p = .error Fault.panic :=
  Proofs.C07.checkPrecision_rejects p h

end C07
