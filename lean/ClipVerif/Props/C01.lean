import ClipVerif.Proofs.C01
import ClipVerif.Proofs.Wind
import ClipVerif.Proofs.WindIx
import ClipVerif.Proofs.Sweep
import ClipVerif.Model.Vertex
import ClipVerif.Proofs.Vertex
import ClipVerif.Model.AelOrder
import ClipVerif.Model.Conv
import ClipVerif.Proofs.AelOrder
import ClipVerif.Model.IntersectList
import ClipVerif.Proofs.IntersectList
import ClipVerif.Model.AelPtr
import ClipVerif.Proofs.AelPtr
import ClipVerif.Proofs.IntersectProcess
/-
C01 — boolean operations return the set-theoretic region.  Proved here: the local decisions of the
sweep (everything the engine *decides* from winding counts); the global composition of the sweep is
explored by the search stage with the Lean oracle (DESIGN §5 C01).  All statements are about the
generated model `Gen.*`.
-/
namespace C01
open Gen Spec Model

/-- NonZero / Positive / Negative: the contribution test on Clipper's encoding of the two sides
    equals "the result predicate differs across the edge", for all clip types, both path types and
    winding numbers of any magnitude -/
theorem contributing_closed_correct (ct fr pt : Nat) (lo w2 : Int)
    (hct : ct = 1 ∨ ct = 2 ∨ ct = 3 ∨ ct = 4) (hfr : fr = 1 ∨ fr = 2 ∨ fr = 3) (hpt : pt = 0 ∨ pt = 1) :
    clipperBase_isContributingClosed (mkEng ct fr) (mkEdge pt (encWind lo) w2) = separates ct fr pt lo w2 :=
  Proofs.C01.contributing_closed_correct ct fr pt lo w2 hct hfr hpt

/-- EvenOdd: own count is ±1 (parity always flips), the other type's count is its parity 0/1 -/
theorem contributing_closed_correct_evenodd (ct pt : Nat) (lo w2 : Int) (wc : Int)
    (hct : ct = 1 ∨ ct = 2 ∨ ct = 3 ∨ ct = 4) (hpt : pt = 0 ∨ pt = 1) (hwc : wc = 1 ∨ wc = -1) :
    clipperBase_isContributingClosed (mkEng ct 0) (mkEdge pt wc (w2 % 2)) = separates ct 0 pt lo w2 :=
  Proofs.C01.contributing_closed_correct_evenodd ct pt lo w2 wc hct hpt hwc

/-- NoClip and out-of-range clip types never contribute -/
theorem contributing_closed_other (ct fr pt : Nat) (wc w2 : Int) (hct : ct = 0 ∨ 4 < ct) :
    clipperBase_isContributingClosed (mkEng ct fr) (mkEdge pt wc w2) = false :=
  Proofs.C01.contributing_closed_other ct fr pt wc w2 hct

/-- non-vacuity: a concrete instance -/
example : clipperBase_isContributingClosed (mkEng 2 1) (mkEdge 0 (encWind 0) 0) = true := by decide

/-! ### Winding-count bookkeeping (model `Model.Wind`, tied by the `wind-corr` stage) -/

/-- insertion (`setWindCountForClosedPathEdge`): if every closed edge left of the new edge carries
    the right counts, so does the new edge — every fill rule, any number of edges, any mixture of
    subject, clip and open edges -/
theorem setWindCount_closed_correct (fr : Nat) (left : List Active) (e : Active)
    (hfr : fr ≤ 3) (hwf : ∀ a ∈ left, WF a) (he : WF e) (hec : isOpen e = false)
    (h0 : e.windCount2 = 0) (hok : AelOK fr [] left) :
    EdgeOK fr left (setWindCountClosed fr left e) :=
  Proofs.Wind.setWindCount_closed_correct fr left e hwf he hec h0 hok

/-- the new edge keeps its direction and identity -/
theorem setWindCount_closed_frame (fr : Nat) (left : List Active) (e : Active) :
    (setWindCountClosed fr left e).windDx = e.windDx ∧
    (setWindCountClosed fr left e).localMin = e.localMin :=
  Proofs.Wind.setWindCount_closed_frame fr left e

/-- intersection (`intersectEdges`, closed edges): swapping two adjacent edges and updating their
    counts keeps both right -/
theorem intersectWind_correct (fr : Nat) (pre : List Active) (e1 e2 : Active)
    (hfr : fr ≤ 3) (hwf : ∀ a ∈ pre, WF a) (h1w : WF e1) (h2w : WF e2)
    (h1c : isOpen e1 = false) (h2c : isOpen e2 = false)
    (h1 : EdgeOK fr pre e1) (h2 : EdgeOK fr (pre ++ [e1]) e2) :
    EdgeOK fr pre (intersectWind fr e1 e2).2 ∧
    EdgeOK fr (pre ++ [(intersectWind fr e1 e2).2]) (intersectWind fr e1 e2).1 :=
  Proofs.Wind.intersectWind_correct fr pre e1 e2 h1w h2w h1c h2c h1 h2

/-- insertion followed by the contribution test (NonZero / Positive / Negative): the new edge is
    declared contributing exactly when the result predicate differs across it, where the winding
    numbers are the signed crossing counts of the edges to its left -/
theorem inserted_edge_contributes_iff_separates (ct fr : Nat) (left : List Active) (e : Active)
    (hct : ct = 1 ∨ ct = 2 ∨ ct = 3 ∨ ct = 4) (hfr : fr = 1 ∨ fr = 2 ∨ fr = 3)
    (hwf : ∀ a ∈ left, WF a) (he : WF e) (hec : isOpen e = false)
    (h0 : e.windCount2 = 0) (hok : AelOK fr [] left) :
    clipperBase_isContributingClosed (mkEng ct fr) (setWindCountClosed fr left e) =
      separates ct fr (getPolyType e)
        (min (windRight (getPolyType e) left) (windRight (getPolyType e) left + e.windDx))
        (windRight (1 - getPolyType e) left) :=
  Proofs.Wind.inserted_edge_contributes_iff_separates ct fr left e hct hfr hwf he hec h0 hok

/-- intersection (`intersectEdges`, closed edges): the invariant "an edge is hot exactly when it is
    contributing" survives every intersection — whatever action the decision table takes
    (nothing, local maximum, maximum + minimum, swap of output records, handing the record over,
    new local minimum), for every clip type and fill rule and winding numbers of any magnitude -/
theorem intersect_keeps_hot_iff_contributing (ct fr : Nat) (pre : List Active) (e1 e2 : Active)
    (front1 same : Bool)
    (hct : ct = 1 ∨ ct = 2 ∨ ct = 3 ∨ ct = 4) (hfr : fr ≤ 3)
    (hwf : ∀ a ∈ pre, WF a) (h1w : WF e1) (h2w : WF e2)
    (h1c : isOpen e1 = false) (h2c : isOpen e2 = false)
    (h1 : EdgeOK fr pre e1) (h2 : EdgeOK fr (pre ++ [e1]) e2) :
    let r := intersectDecide ct fr e1 e2
      (clipperBase_isContributingClosed (mkEng ct fr) e1)
      (clipperBase_isContributingClosed (mkEng ct fr) e2) front1 same
    r.2.2.2.1 = clipperBase_isContributingClosed (mkEng ct fr) r.1 ∧
    r.2.2.2.2 = clipperBase_isContributingClosed (mkEng ct fr) r.2.1 :=
  Proofs.WindIx.intersect_keeps_hot_iff_contributing ct fr pre e1 e2 front1 same hct hfr
    h1w h2w h1c h2c h1 h2

/-- non-vacuity: a consistent three-edge AEL (subject up, clip up, subject down) under NonZero -/
example : AelOK 1 []
    [ { windDx := 1, windCount := 1, windCount2 := 0, localMin := { PolyType := 0, IsOpen := false } },
      { windDx := 1, windCount := 1, windCount2 := 1, localMin := { PolyType := 1, IsOpen := false } },
      { windDx := -1, windCount := 1, windCount2 := 1, localMin := { PolyType := 0, IsOpen := false } } ] := by
  simp only [AelOK, EdgeOK]
  decide

/-! ### Vertex rings and local minima (model `Model.vertexRing` of `addPathsToVertexList`, tied by `models-corr vertex`) -/

/-- closed paths: a vertex is flagged LocalMin (8) / LocalMax (4) exactly where the ring turns from
    descending to ascending / from ascending to descending (plateaus are attributed to their last
    vertex), and no open-path flag is set -/
theorem vertexRing_closed_flags (path : List Point64) (r : VRing) (h : vertexRing path false = some r)
    (i : Nat) (hi : i < r.pts.size) :
    ((r.flags[i]! &&& 8 ≠ 0) ↔ isLocalMinAt r.ys i = true) ∧
    ((r.flags[i]! &&& 4 ≠ 0) ↔ isLocalMaxAt r.ys i = true) ∧
    r.flags[i]! &&& 3 = 0 := by
  have hf := Proofs.Vertex.ring_final path r h
  obtain ⟨m1, m2⟩ := Proofs.Vertex.minmax_iff r.pts i hi hf.two_le (hf.hasPrev i)
  obtain ⟨b8, b4, b3⟩ := hf.inv.bits hi
  rw [← bne_iff_ne, ← bne_iff_ne, b8, b4]
  exact ⟨m1.symm, m2.symm, b3⟩

/-- closed paths: the recorded local minima are exactly the vertices flagged LocalMin, each once -/
theorem vertexRing_closed_minima (path : List Point64) (r : VRing) (h : vertexRing path false = some r) :
    r.minima.Nodup ∧ ∀ i, i ∈ r.minima ↔ (i < r.pts.size ∧ r.flags[i]! &&& 8 ≠ 0) := by
  have hinv := (Proofs.Vertex.ring_final path r h).inv
  rw [hinv.minima_eq]
  refine ⟨List.Nodup.sublist List.filter_sublist List.nodup_range, fun i => ?_⟩
  rw [List.mem_filter, List.mem_range, ← bne_iff_ne]
  exact and_congr_right fun hi => by rw [(hinv.bits hi).1]

/-- closed paths: the ring has as many local minima as local maxima, and at least one -/
theorem vertexRing_closed_balanced (path : List Point64) (r : VRing) (h : vertexRing path false = some r) :
    ((List.range r.pts.size).filter (fun i => r.flags[i]! &&& 8 != 0)).length =
      ((List.range r.pts.size).filter (fun i => r.flags[i]! &&& 4 != 0)).length ∧
    1 ≤ r.minima.length := by
  have hf := Proofs.Vertex.ring_final path r h
  have hinv := hf.inv
  obtain ⟨k, hk1, hk2⟩ := Proofs.Vertex.exists_rise r.pts hf.two_le hf.not_flat
  -- minima are the rises of the direction round the ring, maxima its falls
  rw [List.filter_congr fun k hk => (hinv.bits (List.mem_range.1 hk)).1,
    List.filter_congr fun k hk => (hinv.bits (List.mem_range.1 hk)).2.1, hinv.minima_eq]
  exact ⟨Proofs.Vertex.rises_eq_falls r.pts,
    List.length_pos_of_mem (List.mem_filter.2 ⟨List.mem_range.2 hk1, hk2⟩)⟩

/-- the ring is the input with consecutive duplicates (and an explicit closing vertex) removed:
    at least two vertices, no two cyclically consecutive vertices equal, not all at one height -/
theorem vertexRing_closed_shape (path : List Point64) (r : VRing) (h : vertexRing path false = some r) :
    2 ≤ r.pts.size ∧ r.flags.size = r.pts.size ∧
    (∀ i, i < r.pts.size → r.pts[i]! ≠ r.pts[(i + 1) % r.pts.size]!) ∧
    (∃ i, i < r.pts.size ∧ r.pts[i]!.Y ≠ r.pts[0]!.Y) ∧
    r.pts.toList.Sublist path := by
  obtain ⟨hpts, hn, hk, _, hinv⟩ := Proofs.Vertex.ring_final path r h
  have hd := Proofs.Dedup.dedup_noAdj path
  refine ⟨hn, hinv.size_eq, ?_, hk, ?_⟩
  · rw [hpts] at hn ⊢
    simpa using hd.unclose.cyclic (Proofs.Dedup.unclose_ends hd hn)
  · rw [hpts]
    exact (Proofs.Dedup.unclose_sublist _).trans (Proofs.Dedup.dedup_sublist path)

/-! ### The abstract sweep: the invariants hold in every reachable state (model `Model.sweepStep`, put together
from the functions of the block on winding counts: closed edges only, and where edges are and which of them meet
is left to the choice of operations) -/

/-- one structural operation (insertion of a local minimum anywhere in the list, intersection of
    any two adjacent edges, removal of a local maximum) preserves the sweep invariant -/
theorem sweepStep_preserves (ct fr : Nat) (hct : ct = 1 ∨ ct = 2 ∨ ct = 3 ∨ ct = 4) (hfr : fr ≤ 3)
    (s : List HEdge) (op : SweepOp) (h : SweepInv ct fr s) : SweepInv ct fr (sweepStep ct fr s op) :=
  Proofs.Sweep.sweepStep_preserves ct fr hct hfr s op h

/-- every active-edge list reachable from the empty one by any sequence of such operations — any
    number of edges, any interleaving — carries exact winding counts on every edge, and an edge is
    hot (has an output record) exactly when the result predicate differs across it -/
theorem sweep_invariant (ct fr : Nat) (hct : ct = 1 ∨ ct = 2 ∨ ct = 3 ∨ ct = 4) (hfr : fr ≤ 3)
    (ops : List SweepOp) : SweepInv ct fr (ops.foldl (sweepStep ct fr) []) :=
  Proofs.Sweep.sweep_invariant ct fr hct hfr ops

/-- non-vacuity: three operations from the empty list reach a four-edge state -/
example : ([SweepOp.insert 0 0 1, SweepOp.insert 1 1 1, SweepOp.swap 1 true false].foldl (sweepStep 2 1) []).length = 4 :=
  Proofs.Sweep.example_len

/-! ### Order of the active-edge list (`isValidAelOrder`, `insertLeftEdge`; model `Model.AelOrder`, tied by
`models-corr aelins`).  `sweep_invariant` above lets a local minimum be inserted anywhere; these
theorems say where the code puts it. -/

/-- x of the edge's line at height `y` (exact) -/
def xAt (e : AelEdge) (y : Rat) : Rat :=
  (e.bot.X.toInt : Rat) + ((e.top.X.toInt : Rat) - e.bot.X.toInt) * (y - e.bot.Y.toInt) / ((e.top.Y.toInt : Rat) - e.bot.Y.toInt)

/-- two edges leaving the same vertex in different directions (the ordinary case at a local minimum,
    and whenever a newcomer starts on a resident's vertex): the newcomer is accepted to the right of the
    resident exactly when it IS to the right of it everywhere above the scanline up to the lower of the
    two tops — for all coordinates within the 2^29 domain -/
theorem isValidAelOrder_geometric (r n : AelEdge)
    (hb : r.bot = n.bot) (hx : r.curX = n.curX)
    (hrb : r.bot.inRange) (hrt : r.top.inRange) (hnt : n.top.inRange)
    (hr : r.top.Y.toInt < r.bot.Y.toInt) (hn : n.top.Y.toInt < n.bot.Y.toInt)
    (hd : crossZ r.top n.bot n.top ≠ 0) :
    isValidAelOrder r n = true ↔
      ∀ y : Rat, (r.top.Y.toInt : Rat) ≤ y → (n.top.Y.toInt : Rat) ≤ y → y < (n.bot.Y.toInt : Rat) → xAt r y < xAt n y := by
  unfold xAt
  exact Proofs.AelOrder.geometric r n hb hx hrb hrt hnt hr hn hd

/-- different x at the scanline: the larger x goes to the right, whatever else the edges look like -/
theorem isValidAelOrder_by_curX (r n : AelEdge) (h : n.curX ≠ r.curX) :
    isValidAelOrder r n = decide (n.curX.toInt > r.curX.toInt) :=
  Proofs.AelOrder.by_curX r n h

/-- where `insertLeftEdge` puts the newcomer: the list is split in two, untouched; every resident now
    left of the newcomer accepted it on its right; the resident now right of it (if any) refused it —
    unless the edge left of the gap is joined to its right neighbour, in which case the newcomer goes
    one place further right -/
theorem insertLeftEdge_position (ael : List AelEdge) (ae : AelEdge) (res : List AelEdge)
    (h : insertLeftEdge ael ae = some res) :
    ∃ l1 l2, ael = l1 ++ l2 ∧ res = l1 ++ ae :: l2 ∧
      ((∀ e ∈ l1, isValidAelOrder e ae = true) ∧ (∀ x, l2.head? = some x → isValidAelOrder x ae = false)
       ∨ (∃ l0 j x, l1 = l0 ++ [j, x] ∧ j.joinRight = true ∧ (∀ e ∈ l0 ++ [j], isValidAelOrder e ae = true) ∧
            isValidAelOrder x ae = false)) :=
  Proofs.AelOrder.position ael ae res h

/-- the only fault: the resident after which the newcomer belongs is joined to a right neighbour that
    does not exist (the engine never leaves a JoinRight edge at the end of the list) -/
theorem insertLeftEdge_total (ael : List AelEdge) (ae : AelEdge)
    (hj : ∀ l1 j, ael = l1 ++ [j] → j.joinRight = false) :
    ∃ res, insertLeftEdge ael ae = some res :=
  Proofs.AelOrder.total ael ae hj

/-- an active-edge list ordered by x at the scanline stays ordered when a local minimum's edge is
    inserted (no joined pair at the insertion point) -/
theorem insertLeftEdge_sorted (ael : List AelEdge) (ae : AelEdge) (res : List AelEdge)
    (hs : ael.Pairwise (fun a b => a.curX.toInt ≤ b.curX.toInt))
    (hj : ∀ e ∈ ael, e.joinRight = false)
    (h : insertLeftEdge ael ae = some res) :
    res.Pairwise (fun a b => a.curX.toInt ≤ b.curX.toInt) :=
  Proofs.AelOrder.sorted ael ae res hs hj h

/-! ### Re-ordering of the active-edge list at the top of a scanbeam (model `Model.Ix` of
`buildIntersectList`: the bottom-up merge sort over the `jump` pointers, tied by `models-corr ixlist`).
`xs` are the x values of the AEL's edges at the top of the beam, edge `i` being the `i`-th of the AEL. -/

/-- the sorted edge list holds every edge of the AEL exactly once … -/
theorem buildIntersectList_perm (xs : List Int) :
    (Model.Ix.build xs).1.Perm (Model.Ix.index xs) := by
  obtain ⟨runs, _, hf, hstep⟩ := Proofs.Ix.build_step xs
  simpa [hf, Proofs.Ix.flatten_singletons] using hstep.perm

/-- … ordered by x at the top of the beam … -/
theorem buildIntersectList_sorted (xs : List Int) :
    (Model.Ix.build xs).1.Pairwise (fun a b => a.2 ≤ b.2) := by
  obtain ⟨runs, hlen, hf, hstep⟩ := Proofs.Ix.build_step xs
  exact hf ▸ Proofs.Ix.sorted_flatten hstep.sorted hlen

/-- … and edges with equal x keep their order (they do not cross inside the beam) -/
theorem buildIntersectList_stable (xs : List Int) :
    (Model.Ix.build xs).1.Pairwise (fun a b => a.2 = b.2 → a.1 < b.1) := by
  obtain ⟨runs, _, hf, hstep⟩ := Proofs.Ix.build_step xs
  refine hf ▸ hstep.stable ?_
  rw [Proofs.Ix.flatten_singletons]
  exact (Proofs.Ix.index_increasing xs).imp (S := Proofs.Ix.Stab) fun h _ => h

/-- one merge of two sorted runs reports exactly the pairs (edge of the left run, edge of the right run
    strictly left of it) -/
theorem buildIntersectList_merge_nodes (l r : List Model.Ix.E)
    (hl : l.Pairwise (fun a b => a.2 ≤ b.2)) (hr : r.Pairwise (fun a b => a.2 ≤ b.2)) :
    (Model.Ix.merge l r).2.Perm
      ((l.map fun a => (r.filter fun b => decide (b.2 < a.2)).map fun b => (a.1, b.1)).flatten) :=
  Proofs.Ix.merge_nodes l r hl hr

/-- every pair of edges that changes order inside the beam (an inversion of the AEL with respect to x at
    the top) gets exactly one intersect node, and no other pair gets one -/
theorem buildIntersectList_nodes_exact (xs : List Int) :
    (Model.Ix.build xs).2.Perm (Model.Ix.inversions xs) :=
  Proofs.Ix.build_nodes xs

/-! ### The pointer surgery on the active-edge list implements the list operations (refinement of the
pointer-level model `Model.AelPtr` — `prevInAEL` / `nextInAEL` / `actives` as a heap, the functions written
assignment by assignment, tied by `models-corr aelptr` — to the lists the other models speak about).
`WF h l`: the heap `h` represents the list `l` (head, forward and backward links, nil ends). -/

theorem ael_insertFirst_refines (h : Model.AelPtr.Heap) (e : Nat) (hw : Proofs.AelPtr.WF h []) :
    Proofs.AelPtr.WF (Model.AelPtr.insertFirst h e) [e] := by
  simp [Proofs.AelPtr.WF, Model.AelPtr.insertFirst, Proofs.AelPtr.Linked, Model.AelPtr.upd]

theorem ael_insertFront_refines (h : Model.AelPtr.Heap) (l : List Nat) (e : Nat) (hw : Proofs.AelPtr.WF h l)
    (hne : l ≠ []) (hn : e ∉ l) : Proofs.AelPtr.WF (Model.AelPtr.insertFront h e) (e :: l) :=
  Proofs.AelPtr.insertFront_refines h l e hw hne hn

/-- `insertRightEdge(e, e2)` (also the tail of `insertLeftEdge`): `e2` ends up right after `e` -/
theorem ael_insertRightEdge_refines (h : Model.AelPtr.Heap) (pre post : List Nat) (e e2 : Nat)
    (hw : Proofs.AelPtr.WF h (pre ++ e :: post)) (hn : e2 ∉ pre ++ e :: post) :
    Proofs.AelPtr.WF (Model.AelPtr.insertRightEdge h e e2) (pre ++ e :: e2 :: post) :=
  Proofs.AelPtr.insertRight_refines h pre post e e2 hw hn

/-- `deleteFromAEL(e)` removes exactly `e` -/
theorem ael_delete_refines (h : Model.AelPtr.Heap) (pre post : List Nat) (e : Nat)
    (hw : Proofs.AelPtr.WF h (pre ++ e :: post)) :
    Proofs.AelPtr.WF (Model.AelPtr.deleteFromAEL h e) (pre ++ post) :=
  Proofs.AelPtr.delete_refines h pre post e hw

/-- `swapPositionsInAEL(e1, e2)` with `e1` immediately left of `e2` exchanges the two and nothing else -/
theorem ael_swap_refines (h : Model.AelPtr.Heap) (pre post : List Nat) (e1 e2 : Nat)
    (hw : Proofs.AelPtr.WF h (pre ++ e1 :: e2 :: post)) :
    Proofs.AelPtr.WF (Model.AelPtr.swapPositions h e1 e2) (pre ++ e2 :: e1 :: post) :=
  Proofs.AelPtr.swap_refines h pre post e1 e2 hw

/-- every swap that `Model.Ix.process` (the loop of `processIntersectList`) performs is one the pointer
code implements: the list-level and the pointer-level model of the re-ordering agree -/
theorem ael_swapAdj_refines (h : Model.AelPtr.Heap) (l l' : List Nat) (a b : Nat) (hw : Proofs.AelPtr.WF h l)
    (hs : Model.Ix.swapAdj l a b = some l') : Proofs.AelPtr.WF (Model.AelPtr.swapPositions h a b) l' :=
  Proofs.AelPtr.swapAdj_refines h l l' a b hw hs

/-- walking `nextInAEL` from `actives` reads exactly the represented list -/
theorem ael_walk_reads_list (h : Model.AelPtr.Heap) (l : List Nat) (hw : Proofs.AelPtr.WF h l) (fuel : Nat)
    (hf : l.length ≤ fuel) : Model.AelPtr.toList fuel h = l := by
  obtain ⟨_, hh, hl⟩ := hw
  rw [Proofs.AelPtr.linked_iff_seg] at hl
  simp only [Model.AelPtr.toList, hh, Proofs.AelPtr.head?_eq_headOr]
  exact Proofs.AelPtr.walk_seg h l none fuel hl hf

/-- end to end on pointers: from a heap that represents the AEL `0 … n-1` whose edges have the x values
`xs` at the top of the scanbeam, taking the nodes `buildIntersectList` emits in whatever order `sort.Slice`
leaves them, the scan of `processIntersectList` always finds a node with adjacent edges and the
`swapPositionsInAEL` calls it makes leave a well-formed doubly linked list that holds every edge once,
sorted by x at the top of the beam -/
theorem doIntersections_on_pointers (xs : List Int) (h : Model.AelPtr.Heap)
    (hw : Proofs.AelPtr.WF h (List.range xs.length)) (ns : List Model.Ix.Node)
    (hperm : ns.Perm (Model.Ix.build xs).2) :
    ∃ done l', Model.Ix.process ns (List.range xs.length) = some (done, l') ∧
      Proofs.AelPtr.WF (Proofs.AelPtrProcess.swapAll h done) l' ∧
      l'.Perm (List.range xs.length) ∧ l'.Pairwise (fun a b => xs[a]! ≤ xs[b]!) := by
  obtain ⟨done, l', hproc, _, hperm', hsorted⟩ :=
    Proofs.IxProc.process_total xs ns (hperm.trans (Proofs.Ix.build_nodes xs))
  exact ⟨done, l', hproc, Proofs.AelPtrProcess.process_refines h _ l' ns done hw hproc, hperm', hsorted⟩

end C01
