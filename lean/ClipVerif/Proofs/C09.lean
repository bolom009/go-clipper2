import ClipVerif.Proofs.C01
namespace Proofs.C09
open Gen Spec Model Proofs.C01

/-- keep predicate through Booleans: `s` / `c` = subject / clip filled -/
def keepB (ct : Nat) (s c : Bool) : Bool :=
  if ct = 1 then c else if ct = 2 then (!s && !c) else !c

theorem keepOpen_eq {ct fr : Nat} {wS wC : Int} (hct : ct = 1 ∨ ct = 2 ∨ ct = 3) :
    keepOpen ct fr wS wC = keepB ct (filled fr wS) (filled fr wC) := by
  rcases hct with rfl | rfl | rfl <;> rfl

theorem contributingOpen_eq (ct fr : Nat) (a : Active) :
    clipperBase_isContributingOpen (mkEng ct fr) a =
      keepB ct (engFilled fr a.windCount) (engFilled fr a.windCount2) := by
  have hne : ¬ C_Negative = C_Positive := by decide
  simp only [keepB, engFilled_eq]
  by_cases c1 : ct = 1 <;> by_cases c2 : ct = 2 <;> by_cases h2 : fr = C_Positive <;>
    by_cases h3 : fr = C_Negative <;>
    simp [clipperBase_isContributingOpen, mkEng, Id.run, pure, C_Intersection, C_Union, c1, c2, h2, h3, hne]

theorem contributing_open_correct (ct fr : Nat) (wS wC : Int)
    (hct : ct = 1 ∨ ct = 2 ∨ ct = 3) (hfr : fr = 1 ∨ fr = 2 ∨ fr = 3) :
    clipperBase_isContributingOpen (mkEng ct fr) (mkOpenEdge wS wC) = keepOpen ct fr wS wC := by
  rw [contributingOpen_eq, keepOpen_eq hct, ← engFilled_eq_filled fr wS hfr,
    ← engFilled_eq_filled fr wC hfr]
  rfl

theorem contributing_open_correct_evenodd (ct : Nat) (wS wC : Int) (hct : ct = 1 ∨ ct = 2 ∨ ct = 3) :
    clipperBase_isContributingOpen (mkEng ct 0) (mkOpenEdge (wS % 2) (wC % 2)) = keepOpen ct 0 wS wC := by
  rw [contributingOpen_eq, keepOpen_eq hct, ← engFilled_EO_mod wS, ← engFilled_EO_mod wC]
  rfl

end Proofs.C09
