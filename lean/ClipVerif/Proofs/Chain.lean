import ClipVerif.Spec.Wind
/-
Sums of an edge weight `f a b` over the consecutive pairs of a vertex list, open (`chain`) and closed
(`cyc`), for any vertex type: the algebra behind `Spec.wind` and `Spec.area2` (sums over `Spec.edgesOf`,
hence `cyc`s by `edgesOf_sum`) and the shoelace sums.  Core Lean only.
-/
namespace Proofs.Chain
variable {α : Type}

def chain (f : α → α → Int) : List α → Int
  | [] => 0
  | [_] => 0
  | a :: b :: rest => f a b + chain f (b :: rest)

def cyc (f : α → α → Int) (path : List α) : Int := chain f (path ++ path.take 1)

theorem cyc_cons (f : α → α → Int) (a : α) (rest : List α) :
    cyc f (a :: rest) = chain f (a :: rest ++ [a]) := rfl

theorem chain_append (f : α → α → Int) (m : α) (l2 : List α) : ∀ (l1 : List α),
    chain f (l1 ++ m :: l2) = chain f (l1 ++ [m]) + chain f (m :: l2)
  | [] => by simp [chain]
  | [_] => by simp [chain]
  | _ :: y :: l1 => by
    have := chain_append f m l2 (y :: l1)
    simp only [List.cons_append, chain] at this ⊢
    omega

theorem chain_snoc (f : α → α → Int) (z : α) : ∀ (l : List α) (x : α),
    chain f (x :: l ++ [z]) = chain f (x :: l) + f (l.getLastD x) z
  | [], x => by simp [chain]
  | y :: l, x => by
    have := chain_snoc f z l y
    simp only [List.cons_append, chain, List.getLastD_cons] at this ⊢
    rw [this]; omega

theorem chain_map {β : Type} (f : β → β → Int) (g : α → β) : ∀ l : List α,
    chain f (l.map g) = chain (fun a b => f (g a) (g b)) l
  | [] => rfl
  | [_] => rfl
  | a :: b :: l => by simp only [List.map_cons, chain]; rw [← chain_map f g (b :: l)]; rfl

theorem cyc_map {β : Type} (f : β → β → Int) (g : α → β) (l : List α) :
    cyc f (l.map g) = cyc (fun a b => f (g a) (g b)) l := by
  unfold cyc
  rw [← List.map_take, ← List.map_append, chain_map]

theorem cyc_append_comm (f : α → α → Int) (l1 l2 : List α) :
    cyc f (l1 ++ l2) = cyc f (l2 ++ l1) := by
  cases l1 with
  | nil => simp
  | cons a l1 =>
    cases l2 with
    | nil => simp
    | cons b l2 =>
      have e1 : cyc f (a :: l1 ++ b :: l2) = chain f ((a :: l1) ++ b :: (l2 ++ [a])) := by
        rw [List.cons_append, cyc_cons]; simp
      have e2 : cyc f (b :: l2 ++ a :: l1) = chain f ((b :: l2) ++ a :: (l1 ++ [b])) := by
        rw [List.cons_append, cyc_cons]; simp
      rw [e1, e2, chain_append f b (l2 ++ [a]) (a :: l1), chain_append f a (l1 ++ [b]) (b :: l2)]
      simp only [List.cons_append]
      omega

theorem cyc_concat (f : α → α → Int) (m : List α) (z : α) :
    cyc f (m ++ [z]) = chain f (z :: (m ++ [z])) := by
  rw [cyc_append_comm, List.singleton_append, cyc_cons, List.cons_append]

/-- erasing a vertex `b` whose two edges weigh as much as the edge that replaces them
    (`a` and `c` are its cyclic neighbours) -/
theorem cyc_erase (f : α → α → Int) (u v : List α) {a b c : α}
    (ha : (v ++ u).getLast? = some a) (hc : (v ++ u).head? = some c) (h : f a b + f b c = f a c) :
    cyc f (u ++ b :: v) = cyc f (u ++ v) := by
  rw [cyc_append_comm, cyc_append_comm f u v, List.cons_append]
  generalize v ++ u = w at ha hc
  obtain ⟨t, rfl⟩ := List.head?_eq_some_iff.mp hc
  rw [List.getLast?_cons, Option.some.injEq] at ha
  -- both sums are that of the open chain `c :: t`, plus `b → c` and `a → b`, or plus `a → c`
  show f b c + chain f (c :: t ++ [b]) = chain f (c :: t ++ [c])
  rw [chain_snoc, chain_snoc, List.getLastD_eq_getLast?, ha]
  omega

theorem chain_reverse (f : α → α → Int) : ∀ (l : List α),
    chain f l.reverse = chain (fun a b => f b a) l
  | [] => rfl
  | [_] => rfl
  | a :: b :: l => by
    -- `(a :: b :: l).reverse` is `(b :: l).reverse` with the edge `b → a` appended
    rw [List.reverse_cons, List.reverse_cons, List.append_assoc, List.singleton_append, chain_append,
      ← List.reverse_cons, chain_reverse f (b :: l)]
    simp only [chain]
    omega

theorem cyc_reverse (f : α → α → Int) (l : List α) :
    cyc f l.reverse = cyc (fun a b => f b a) l := by
  cases l with
  | nil => rfl
  | cons a rest =>
    rw [List.reverse_cons, cyc_append_comm, List.singleton_append, cyc_cons, cyc_cons]
    have h : a :: rest.reverse ++ [a] = (a :: rest ++ [a]).reverse := by simp
    rw [h, chain_reverse]

theorem chain_neg (f : α → α → Int) : ∀ l : List α,
    chain (fun a b => - f a b) l = - chain f l
  | [] => rfl
  | [_] => rfl
  | a :: b :: l => by simp only [chain]; rw [chain_neg f (b :: l)]; omega

theorem cyc_neg (f : α → α → Int) (l : List α) : cyc (fun a b => - f a b) l = - cyc f l :=
  chain_neg f _

theorem cyc_reverse_antisymm (f : α → α → Int) (hf : ∀ a b, f b a = - f a b) (l : List α) :
    cyc f l.reverse = - cyc f l := by
  rw [cyc_reverse, ← cyc_neg]
  exact congrArg (cyc · l) (funext fun a => funext (hf a))

theorem cyc_repeat (f : α → α → Int) (v : α) (hv : f v v = 0) (pre post : List α) :
    cyc f (pre ++ v :: v :: post) = cyc f (pre ++ v :: post) :=
  cyc_erase f pre (v :: post) (List.getLast?_eq_some_getLast (by simp)) rfl (by rw [hv]; omega)

theorem cyc_closing (f : α → α → Int) (v : α) (hv : f v v = 0) (rest : List α) :
    cyc f (v :: rest ++ [v]) = cyc f (v :: rest) := by
  rw [cyc_append_comm, List.singleton_append]
  exact cyc_repeat f v hv [] rest

theorem chain_telescope (g : α → Int) (z : α) : ∀ (l : List α) (a : α),
    chain (fun u v => g u - g v) (a :: l ++ [z]) = g a - g z
  | [], a => by simp [chain]
  | b :: l, a => by
    have := chain_telescope g z l b
    simp only [List.cons_append, chain] at this ⊢
    omega

theorem cyc_telescope (g : α → Int) (l : List α) : cyc (fun u v => g u - g v) l = 0 := by
  cases l with
  | nil => rfl
  | cons a rest =>
    rw [cyc_cons, chain_telescope]
    omega

theorem chain_add (f g : α → α → Int) : ∀ l : List α,
    chain (fun a b => f a b + g a b) l = chain f l + chain g l
  | [] => rfl
  | [_] => rfl
  | a :: b :: l => by simp only [chain]; rw [chain_add f g (b :: l)]; omega

theorem cyc_add (f g : α → α → Int) (l : List α) :
    cyc (fun a b => f a b + g a b) l = cyc f l + cyc g l :=
  chain_add f g _

open Spec

theorem edgesOf_sum (f : IPt → IPt → Int) (path : List IPt) :
    ((edgesOf path).map (fun e => f e.1 e.2)).sum = cyc f path := by
  cases path with
  | nil => rfl
  | cons a rest =>
    -- for the induction the closing vertex is any `z`
    suffices h : ∀ a z : IPt, (((a :: rest).zip (rest ++ [z])).map (fun e => f e.1 e.2)).sum =
        chain f (a :: rest ++ [z]) from h a a
    induction rest with
    | nil => intro a z; simp [chain]
    | cons b rest ih =>
      intro a z
      have := ih b z
      simp only [List.cons_append, List.zip_cons_cons, List.map_cons, List.sum_cons, chain] at this ⊢
      rw [this]

theorem wind_eq_cyc (path : List IPt) (p : QPt) : wind path p = cyc (fun a b => edgeW a b p) path :=
  edgesOf_sum (fun a b => edgeW a b p) path

theorem area2_eq_cyc (path : List IPt) :
    area2 path = cyc (fun a b => (a.y + b.y) * (a.x - b.x)) path :=
  edgesOf_sum (fun a b => (a.y + b.y) * (a.x - b.x)) path

theorem edgesOf_map (g : IPt → IPt) (l : List IPt) :
    edgesOf (l.map g) = (edgesOf l).map (fun e => (g e.1, g e.2)) := by
  cases l with
  | nil => simp [edgesOf]
  | cons a rest =>
    simp only [List.map_cons, edgesOf]
    have : List.map g rest ++ [g a] = List.map g (rest ++ [a]) := by simp
    rw [this, ← List.map_cons, List.zip_map]
    rfl

theorem edgesOf_append (a b : IPt) (l1 l2 : List IPt) :
    edgesOf (a :: l1 ++ b :: l2) = (a :: l1).zip (l1 ++ [b]) ++ (b :: l2).zip (l2 ++ [a]) := by
  rw [← List.zip_append (by simp)]
  simp [edgesOf]

/-- either way round the edges are those of the chain `a … b` and those of the chain `b … a` -/
theorem edgesOf_append_comm (l1 l2 : List IPt) : (edgesOf (l1 ++ l2)).Perm (edgesOf (l2 ++ l1)) := by
  cases l1 with
  | nil => rw [List.nil_append, List.append_nil]
  | cons a l1 =>
    cases l2 with
    | nil => rw [List.nil_append, List.append_nil]
    | cons b l2 =>
      rw [edgesOf_append a b, edgesOf_append b a]
      exact List.perm_append_comm

theorem edgesOf_rot (l : List IPt) (k : Nat) : (edgesOf (l.drop k ++ l.take k)).Perm (edgesOf l) := by
  have := edgesOf_append_comm (l.drop k) (l.take k)
  rwa [List.take_append_drop] at this

end Proofs.Chain
