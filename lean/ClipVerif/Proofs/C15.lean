import ClipVerif.Model.Trim
import ClipVerif.Model.Conv
import ClipVerif.Proofs.Basic
/-
C15 — `Model.trimCollinear` is `trimTail` at the results of the two skipping loops (`trimCollinear_eq`),
and `trimTail` is what the main loop kept (`Kept`) followed by the last vertex or cut back by the closing
loop (`trimTail_long`); the theorems about the result go through these two.  That a closed result has 0 or
at least 3 vertices is false for the generated predicate (`closed_size_false`, two witnesses);
`closed_size_weak` says what holds.
-/
namespace Proofs.C15
open Gen Model

/-- `p[i .. l-1]` -/
def seg (p : Array Point64) (i l : Nat) : List Point64 := (p.toList.take l).drop i

theorem seg_full (p : Array Point64) : seg p 0 p.size = p.toList := by
  simp only [seg, List.drop_zero]
  exact List.take_of_length_le (by simp)

theorem seg_length (p : Array Point64) (i l : Nat) (hl : l ≤ p.size) :
    (seg p i l).length = l - i := by
  simp [seg]; omega

theorem seg_sublist (p : Array Point64) (i l : Nat) : (seg p i l).Sublist p.toList :=
  (List.drop_sublist _ _).trans (List.take_sublist _ _)

theorem seg_cons (p : Array Point64) (i l : Nat) (hi : i < l) (hl : l ≤ p.size) :
    seg p i l = p[i]! :: seg p (i + 1) l := by
  rw [← Array.getElem!_toList]; exact List.drop_take_eq_getElem!_cons _ i l hi hl

theorem seg_snoc (p : Array Point64) (i l : Nat) (hi : i < l + 1) (hl : l < p.size) :
    seg p i (l + 1) = seg p i l ++ [p[l]!] := by
  simp only [seg]
  rw [List.take_succ_eq_append_getElem (by simpa using hl), List.drop_append_of_le_length (by simp; omega),
    getElem!_pos p l hl]
  simp

theorem skipFront_bound (p : Array Point64) (l i : Nat) :
    i ≤ trimSkipFront p l i ∧ (trimSkipFront p l i + 1 ≤ l ∨ trimSkipFront p l i = i) := by
  fun_induction trimSkipFront p l i with
  | case1 i h hc ih => omega
  | case2 i h hc => omega
  | case3 i h => omega

theorem skipBack_bound (p : Array Point64) (i l : Nat) :
    trimSkipBack p i l ≤ l ∧ (i + 1 ≤ trimSkipBack p i l ∨ trimSkipBack p i l = l) := by
  fun_induction trimSkipBack p i l with
  | case1 l h hc ih => omega
  | case2 l h hc => omega
  | case3 l h => omega

theorem trimMain_sub (p : Array Point64) (l i : Nat) (last : Point64) (res : Array Point64)
    (hl : l ≤ p.size) :
    ∃ s : List Point64, (trimMain p l i last res).2.toList = res.toList ++ s ∧ s.Sublist (seg p i (l - 1)) := by
  fun_induction trimMain p l i last res with
  | case1 i last res h hc ih =>
    obtain ⟨s, hs, hsub⟩ := ih
    exact ⟨s, hs, by rw [seg_cons p i (l - 1) (by omega) (by omega)]; exact hsub.cons _⟩
  | case2 i last res h hc ih =>
    obtain ⟨s, hs, hsub⟩ := ih
    refine ⟨p[i]! :: s, by rw [hs]; simp, ?_⟩
    rw [seg_cons p i (l - 1) (by omega) (by omega)]
    exact hsub.cons_cons _
  | case3 i last res h =>
    exact ⟨[], by simp, List.nil_sublist _⟩

theorem trimMain_last (p : Array Point64) (l i : Nat) (last : Point64) (res : Array Point64)
    (h : res.back? = some last) :
    (trimMain p l i last res).2.back? = some (trimMain p l i last res).1 := by
  fun_induction trimMain p l i last res with
  | case1 i last res _ _ ih => exact ih h
  | case2 i last res _ _ ih => exact ih Array.back?_push
  | case3 i last res _ => exact h

theorem trimClose_prefix (res : Array Point64) : (trimClose res).toList <+: res.toList := by
  fun_induction trimClose res with
  | case1 res h hc ih =>
    refine List.IsPrefix.trans ih ?_
    simp only [Array.toList_pop]
    exact List.dropLast_prefix _
  | case2 res h hc => exact List.prefix_refl _
  | case3 res h => exact List.prefix_refl _

/-- the part of `trimCollinear` after the two skipping loops, whose results are `i`, `l`
    (`0`, `path.size` for an open path) -/
def trimTail (path : Array Point64) (isOpen : Bool) (i l : Nat) : Array Point64 :=
  if l - i < 3 ∨ l < i then
    if !isOpen || l < 2 || path[0]! == path[1]! then #[] else path
  else
    let r := trimMain path l (i + 1) path[i]! #[path[i]!]
    if isOpen then r.2.push path[l-1]!
    else if !isCollinear r.1 path[l-1]! r.2[0]! then r.2.push path[l-1]!
    else if (trimClose r.2).size < 3 then #[] else trimClose r.2

theorem trimCollinear_eq (path : Array Point64) (isOpen : Bool) :
    trimCollinear path isOpen =
      if isOpen then trimTail path isOpen 0 path.size
      else trimTail path isOpen (trimSkipFront path path.size 0)
        (trimSkipBack path (trimSkipFront path path.size 0) path.size) := by
  cases isOpen <;> rfl

theorem trimTail_short (path : Array Point64) (isOpen : Bool) {i l : Nat} (h : l < i + 3) :
    trimTail path isOpen i l = if !isOpen || l < 2 || path[0]! == path[1]! then #[] else path := by
  unfold trimTail
  rw [if_pos (by omega)]

/-- what the main loop keeps of `path[i .. l-2]`: `res`, which is `path[i]` and a sub-sequence `s` of the
    others, and ends in `last` -/
structure Kept (path : Array Point64) (i l : Nat) (last : Point64) (res : Array Point64)
    (s : List Point64) : Prop where
  eq : trimMain path l (i + 1) path[i]! #[path[i]!] = (last, res)
  toList : res.toList = path[i]! :: s
  sub : s.Sublist (seg path (i + 1) (l - 1))
  back : res.back? = some last

theorem kept (path : Array Point64) (i l : Nat) (hlb : l ≤ path.size) :
    ∃ last res s, Kept path i l last res s := by
  obtain ⟨s, hs, hsub⟩ := trimMain_sub path l (i + 1) path[i]! #[path[i]!] hlb
  exact ⟨_, _, s, rfl, hs, hsub, trimMain_last path l (i + 1) path[i]! #[path[i]!] (by simp)⟩

section
variable {path : Array Point64} {i l : Nat} {last : Point64} {res : Array Point64} {s : List Point64}

theorem Kept.frame (k : Kept path i l last res s) (hl : l ≤ path.size) (hil : i + 2 ≤ l) :
    (res.toList ++ [path[l-1]!]).Sublist path.toList := by
  rw [k.toList]
  refine List.Sublist.trans ?_ (seg_sublist path i l)
  obtain ⟨m, rfl⟩ : ∃ m, l = m + 1 := ⟨l - 1, by omega⟩
  rw [seg_snoc path i m (by omega) (by omega), seg_cons path i m (by omega) (by omega)]
  exact (k.sub.cons_cons _).append (List.Sublist.refl _)

theorem trimTail_long {isOpen : Bool} (h : i + 3 ≤ l) (k : Kept path i l last res s) :
    trimTail path isOpen i l =
      if isOpen = true ∨ isCollinear last path[l-1]! res[0]! = false then res.push path[l-1]!
      else if (trimClose res).size < 3 then #[] else trimClose res := by
  unfold trimTail
  rw [if_neg (by omega), k.eq]
  dsimp only
  cases isOpen <;> cases isCollinear last path[l-1]! res[0]! <;> rfl

end

theorem trimTail_sublist (path : Array Point64) (isOpen : Bool) (i l : Nat) (hlb : l ≤ path.size) :
    (trimTail path isOpen i l).toList.Sublist path.toList := by
  by_cases h : l < i + 3
  · rw [trimTail_short path isOpen h]
    split
    · simp
    · exact List.Sublist.refl _
  · obtain ⟨last, res, s, k⟩ := kept path i l hlb
    have hframe := k.frame hlb (by omega)
    rw [trimTail_long (by omega) k]
    split
    · simpa using hframe
    · split
      · simp
      · exact (trimClose_prefix _).sublist.trans ((List.sublist_append_left _ _).trans hframe)

theorem trim_sublist (path : Array Point64) (isOpen : Bool) :
    (trimCollinear path isOpen).toList.Sublist path.toList := by
  rw [trimCollinear_eq]
  split
  · exact trimTail_sublist path isOpen 0 path.size (Nat.le_refl _)
  · exact trimTail_sublist path isOpen _ _ (skipBack_bound path _ path.size).1

theorem open_ends (path : Array Point64) (h : (trimCollinear path true).size ≠ 0) :
    (trimCollinear path true)[0]? = path[0]? ∧ (trimCollinear path true).back? = path.back? := by
  rw [trimCollinear_eq, if_pos rfl] at h ⊢
  by_cases hs : path.size < 0 + 3
  · rw [trimTail_short path true hs] at h ⊢
    split
    · next h2 => rw [if_pos h2] at h; simp at h
    · exact ⟨rfl, rfl⟩
  · obtain ⟨last, res, s, k⟩ := kept path 0 path.size (Nat.le_refl _)
    rw [trimTail_long (by omega) k, if_pos (Or.inl rfl)]
    constructor
    · rw [← Array.getElem?_toList, Array.toList_push, k.toList]
      have : 0 < path.size := by omega
      simp [this]
    · rw [Array.back?_push, Array.back?_eq_getElem?]
      have : path.size - 1 < path.size := by omega
      simp [this]

theorem closed_eq (path : Array Point64) :
    ∃ (i l : Nat), l ≤ path.size ∧ trimCollinear path false = trimTail path false i l :=
  ⟨_, _, (skipBack_bound path _ path.size).1, trimCollinear_eq path false⟩

theorem closed_short (path : Array Point64) (h : path.size < 3) : trimCollinear path false = #[] := by
  obtain ⟨i, l, hlb, e⟩ := closed_eq path
  rw [e, trimTail_short path false (by omega)]
  rfl

/-- smallest witness (3 vertices; needs a coordinate difference of exactly 1: `triSign 1 = 0`) -/
def sizeWitness : Array Point64 := #[⟨0, 0⟩, ⟨3, -3⟩, ⟨1, -1⟩]

/-- a witness without any coordinate difference of 1 must overflow: difference `-2^63` -/
def sizeWitnessOvf : Array Point64 := #[⟨0, 0⟩, ⟨5, 7⟩, ⟨0, 0⟩, ⟨-9223372036854775808, 5⟩]

theorem closed_size_witness : trimCollinear sizeWitness false = #[⟨0, 0⟩, ⟨1, -1⟩] := by
  decide +kernel

theorem closed_size_witness_ovf :
    trimCollinear sizeWitnessOvf false = #[⟨0, 0⟩, ⟨-9223372036854775808, 5⟩] := by
  decide +kernel

theorem closed_size_false :
    ¬ ∀ path : Array Point64,
      (trimCollinear path false).size = 0 ∨ 3 ≤ (trimCollinear path false).size := by
  intro h
  have := h sizeWitness
  rw [closed_size_witness] at this
  simp at this

theorem closed_size_weak (path : Array Point64) :
    (trimCollinear path false).size = 0 ∨ 3 ≤ (trimCollinear path false).size ∨
      ∃ a b, trimCollinear path false = #[a, b] ∧ a ∈ path ∧ b ∈ path ∧ isCollinear a b a = false := by
  obtain ⟨i, l, hlb, e⟩ := closed_eq path
  rw [e]
  by_cases h : l < i + 3
  · rw [trimTail_short path false h]; simp
  · obtain ⟨last, res, s, k⟩ := kept path i l hlb
    rw [trimTail_long (by omega) k]
    cases hcol : isCollinear last path[l-1]! res[0]!
    · rw [if_pos (Or.inr rfl)]
      cases s with
      | cons x s =>
        have : res.size = res.toList.length := by simp
        right; left
        rw [Array.size_push, this, k.toList]; simp
      | nil =>
        -- the main loop kept `path[i]` only: it is `last`, and `res[0]`
        have hres : res = #[path[i]!] := by
          apply Array.ext'; simpa using k.toList
        have hlast := k.back
        subst hres
        simp only [List.back?_toArray, List.getLast?_singleton, Option.some.injEq] at hlast
        subst hlast
        exact Or.inr (Or.inr ⟨path[i]!, path[l-1]!, by simp,
          Array.mem_def.mpr (Array.getElem!_mem_toList path i (by omega)),
          Array.mem_def.mpr (Array.getElem!_mem_toList path (l-1) (by omega)), hcol⟩)
    · rw [if_neg (by decide)]
      split
      · simp
      · right; left; omega

theorem closed_size_ne_one (path : Array Point64) : (trimCollinear path false).size ≠ 1 := by
  rcases closed_size_weak path with h | h | ⟨a, b, h, -⟩
  · omega
  · omega
  · rw [h]; simp

end Proofs.C15
