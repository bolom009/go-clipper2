import ClipVerif.Model.Minima
import ClipVerif.Proofs.Basic
/-
`Model.Minima`: the order in which an execution meets the local minima depends only on what was added (not
on when earlier executions happened), and the sweep visits every local minimum exactly once, in that order,
whatever other scanlines are inserted on the way.  The first holds because a descending list is determined by
its sublists at each height (`desc_unique`), and a stable sort leaves those as they are (`sortDesc_filter`).
-/
namespace Proofs.Minima
open Model.Minima

def Desc (l : List LM) : Prop := l.Pairwise (fun a b => a.1 ≥ b.1)

abbrev leD : LM → LM → Bool := fun a b => decide (a.1 ≥ b.1)

theorem leD_trans (a b c : LM) (h1 : leD a b) (h2 : leD b c) : leD a c := by
  simp [leD] at *; omega

theorem leD_total (a b : LM) : leD a b || leD b a := by
  simp [leD]; omega

theorem sortDesc_desc (l : List LM) : Desc (sortDesc l) := by
  have := List.pairwise_mergeSort leD_trans leD_total l
  unfold Desc sortDesc
  exact this.imp (by intro a b h; simpa [leD] using h)

theorem sortDesc_of_desc {l : List LM} (h : Desc l) : sortDesc l = l := by
  unfold sortDesc
  apply List.mergeSort_of_pairwise
  exact h.imp (by intro a b h; simpa using h)

theorem sortDesc_filter (l : List LM) (k : Int) :
    (sortDesc l).filter (fun m => m.1 == k) = l.filter (fun m => m.1 == k) := by
  have hs : List.Sublist (l.filter (fun m => m.1 == k)) (sortDesc l) := by
    apply List.sublist_mergeSort leD_trans leD_total
    · rw [List.pairwise_filter]
      apply List.pairwise_of_forall_mem_list
      intro a _ b _; simp [leD]; intro ha hb; omega
    · exact List.filter_sublist
  have hs2 := hs.filter (fun m => m.1 == k)
  rw [List.filter_filter] at hs2
  simp only [Bool.and_self] at hs2
  symm
  apply hs2.eq_of_length
  exact ((List.mergeSort_perm l _).filter _).length_eq.symm

theorem Desc.le_head {x y : LM} {t : List LM} (h : Desc (y :: t)) (hx : x ∈ y :: t) : x.1 ≤ y.1 :=
  List.Pairwise.head_rel h (fun _ => Int.le_refl _) x hx

theorem desc_unique {r1 r2 : List LM} (h1 : Desc r1) (h2 : Desc r2)
    (hf : ∀ k, r1.filter (fun m => m.1 == k) = r2.filter (fun m => m.1 == k)) : r1 = r2 := by
  induction r1 generalizing r2 with
  | nil =>
    cases r2 with
    | nil => rfl
    | cons y t => have := hf y.1; simp at this
  | cons x t1 ih =>
    cases r2 with
    | nil => have := hf x.1; simp at this
    | cons y t2 =>
      -- each head is in the other list, since it is in its own list's filter at its height
      have hx : x ∈ (y :: t2).filter (fun m => m.1 == x.1) := by rw [← hf]; simp
      have hy : y ∈ (x :: t1).filter (fun m => m.1 == y.1) := by rw [hf]; simp
      have hxy : x.1 = y.1 :=
        Int.le_antisymm (h2.le_head (List.mem_filter.1 hx).1) (h1.le_head (List.mem_filter.1 hy).1)
      have e : x = y := by
        have := hf x.1
        rw [List.filter_cons_of_pos (by simp), List.filter_cons_of_pos (by simp [hxy])] at this
        exact (List.cons.inj this).1
      subst e
      congr 1
      apply ih (List.Pairwise.of_cons h1) (List.Pairwise.of_cons h2)
      intro k
      have := hf k
      simp only [List.filter_cons] at this
      split at this
      · exact (List.cons.inj this).2
      · exact this

theorem sortDesc_sortDesc_append (a b : List LM) : sortDesc (sortDesc a ++ b) = sortDesc (a ++ b) := by
  apply desc_unique (sortDesc_desc _) (sortDesc_desc _)
  intro k
  rw [sortDesc_filter, sortDesc_filter, List.filter_append, List.filter_append, sortDesc_filter]

theorem reset_minima_eq (s : St) : (reset s).minima = if s.sorted then s.minima else sortDesc s.minima :=
  rfl

/-- the flag only saves work: in a consistent state `reset` leaves the sorted list either way -/
theorem reset_minima {s : St} (hs : s.sorted = true → Desc s.minima) :
    (reset s).minima = sortDesc s.minima := by
  rw [reset_minima_eq]
  split
  · next h => exact (sortDesc_of_desc (hs h)).symm
  · rfl

theorem reset_sorted (s : St) : (reset s).sorted = true := rfl

theorem reset_desc {s : St} (hs : s.sorted = true → Desc s.minima) : Desc (reset s).minima := by
  rw [reset_minima hs]; exact sortDesc_desc _

theorem reset_fold (ops : List Op) (s : St) (hs : s.sorted = true → Desc s.minima) :
    (reset (ops.foldl step s)).minima = sortDesc (s.minima ++ added ops) := by
  induction ops generalizing s with
  | nil => rw [List.foldl_nil, reset_minima hs, added, List.append_nil]
  | cons op t ih =>
    cases op with
    | add ms =>
      simp only [List.foldl_cons, step, added]
      rw [ih]
      · simp [add]
      · simp [add]
    | exec =>
      simp only [List.foldl_cons, step, added]
      rw [ih (clearSolution (reset s)) fun _ => reset_desc hs]
      show sortDesc ((reset s).minima ++ added t) = _
      rw [reset_minima hs, sortDesc_sortDesc_append]

theorem history_independent (ops : List Op) : (afterHistory ops).minima = sortDesc (added ops) :=
  reset_fold ops {} nofun

theorem afterHistory_sorted (ops : List Op) : Desc (afterHistory ops).minima := by
  rw [history_independent]; exact sortDesc_desc _

theorem fold_scan (ops : List Op) (s : St) (h : s.scan = []) : (ops.foldl step s).scan = [] :=
  List.foldlRecOn (motive := fun s => s.scan = []) ops step h fun s hs op _ => by
    cases op <;> simp [step, add, clearSolution, hs]

theorem afterHistory_scan (ops : List Op) :
    (afterHistory ops).scan = (sortDesc (added ops)).reverse.map (·.1) ∧ (afterHistory ops).cur = 0 := by
  refine ⟨?_, rfl⟩
  rw [← history_independent]
  unfold afterHistory
  simp only [reset]
  rw [fold_scan _ _ rfl]
  simp

theorem popScan_some {scan : List Int} {y rest} (h : popScan scan = some (y, rest)) :
    y ∈ scan ∧ (∀ z ∈ scan, z ≤ y) ∧ rest = scan.filter (· ≠ y) := by
  unfold popScan at h
  split at h
  · cases h
  · next y' hy =>
    cases h
    rw [List.max?_eq_some_iff] at hy
    exact ⟨hy.1, hy.2, rfl⟩

theorem popScan_none {scan : List Int} (h : popScan scan = none) : scan = [] := by
  unfold popScan at h
  split at h
  · next hy => exact List.max?_eq_none_iff.mp hy
  · cases h

theorem popAt_spec (minima : List LM) (cur : Nat) (y : Int) :
    (popAt minima cur y).1 ++ minima.drop (popAt minima cur y).2 = minima.drop cur ∧
    minima.drop (popAt minima cur y).2 = (minima.drop cur).dropWhile (fun m => m.1 == y) := by
  have h : minima.drop (popAt minima cur y).2 = (minima.drop cur).dropWhile (fun m => m.1 == y) := by
    rw [popAt, ← List.drop_drop, List.drop_length_takeWhile]
  exact ⟨by rw [h]; exact List.takeWhile_append_dropWhile, h⟩

theorem sweep_prefix_gen (extra : Int → List Int) (minima : List LM) (fuel cur : Nat) (scan : List Int) :
    sweep extra fuel minima cur scan <+: minima.drop cur := by
  induction fuel generalizing cur scan with
  | zero => simp [sweep]
  | succ n ih =>
    cases hp : popScan scan with
    | none => rw [sweep, hp]; exact List.nil_prefix
    | some v =>
      obtain ⟨y, rest⟩ := v
      rw [sweep, hp, ← (popAt_spec minima cur y).1]
      exact (List.prefix_append_right_inj _).2 (ih _ _)

/-- in a descending list with nothing above `y` the local minima at `y` are in front: behind the run at
`y` comes everything that is not at `y` -/
theorem popAt_desc {minima : List LM} {cur : Nat} {y : Int} (hD : Desc (minima.drop cur))
    (hle : ∀ m ∈ minima.drop cur, m.1 ≤ y) :
    minima.drop (popAt minima cur y).2 = (minima.drop cur).filter (·.1 != y) := by
  rw [(popAt_spec minima cur y).2]
  refine List.dropWhile_eq_filter_not (hD.imp_of_mem fun ha _ hab hay => ?_)
  have := hle _ ha
  rw [beq_eq_false_iff_ne] at hay ⊢
  omega

theorem sweep_all_gen (extra : Int → List Int) (minima : List LM) (fuel cur : Nat) (scan : List Int)
    (hD : Desc (minima.drop cur)) (hin : ∀ m ∈ minima.drop cur, m.1 ∈ scan)
    (hf : ∀ z ∈ scan, ∀ m ∈ minima.drop cur, (z - m.1).toNat + 1 ≤ fuel) :
    sweep extra fuel minima cur scan = minima.drop cur := by
  induction fuel generalizing cur scan with
  | zero =>
    simp only [sweep]
    symm
    apply List.eq_nil_iff_forall_not_mem.mpr
    intro m hm
    have := hf _ (hin m hm) m hm
    omega
  | succ n ih =>
    unfold sweep
    split
    · next hp =>
      have := popScan_none hp
      subst this
      symm
      apply List.eq_nil_iff_forall_not_mem.mpr
      intro m hm
      simpa using hin m hm
    · next y rest hp =>
      obtain ⟨hy, hmax, rfl⟩ := popScan_some hp
      have hle : ∀ m ∈ minima.drop cur, m.1 ≤ y := fun m hm => hmax _ (hin m hm)
      dsimp only
      rw [ih, (popAt_spec minima cur y).1]
      · rw [popAt_desc hD hle]; exact hD.filter _
      · rw [popAt_desc hD hle]; intro m hm
        obtain ⟨hm, hne⟩ := List.mem_filter.1 hm
        rw [List.mem_append, List.mem_filter]
        exact Or.inl ⟨hin m hm, decide_eq_true (bne_iff_ne.1 hne)⟩
      · -- every scanline left is below `y` too, so the distance to any local minimum has shrunk
        rw [popAt_desc hD hle]; intro z hz m hm
        obtain ⟨hm, hne⟩ := List.mem_filter.1 hm
        have := bne_iff_ne.1 hne
        have := hle m hm
        have := hf y hy m hm
        have : z < y := by
          simp only [List.mem_append, List.mem_filter, decide_eq_true_eq] at hz
          rcases hz with ⟨hz, hne⟩ | ⟨_, hlt⟩
          · have := hmax z hz
            omega
          · exact hlt
        omega

theorem desc_ge_getLast {l : List LM} (h : Desc l) (hne : l ≠ []) : ∀ x ∈ l, x.1 ≥ (l.getLast hne).1 := by
  intro x hx
  obtain ⟨i, hi, rfl⟩ := List.getElem_of_mem hx
  rw [List.getLast_eq_getElem]
  exact List.Pairwise.getElem_of_le h (fun _ => Int.le_refl _) hi _ (Nat.le_sub_one_of_lt hi)

theorem sweep_prefix (extra : Int → List Int) (minima : List LM) (fuel : Nat) :
    sweep extra fuel minima 0 (minima.reverse.map (·.1)) <+: minima :=
  sweep_prefix_gen extra minima fuel 0 _

theorem sweep_visits_all (extra : Int → List Int) (m : LM) (rest : List LM) (h : Desc (m :: rest)) (fuel : Nat)
    (hf : (m.1 - ((m :: rest).getLast (by simp)).1).toNat + 1 ≤ fuel) :
    sweep extra fuel (m :: rest) 0 ((m :: rest).reverse.map (·.1)) = m :: rest := by
  apply sweep_all_gen extra (m :: rest) fuel 0 _ h
  · intro x hx
    exact List.mem_map.2 ⟨x, List.mem_reverse.2 hx, rfl⟩
  · intro z hz x hx
    obtain ⟨x', hx', rfl⟩ := List.mem_map.1 hz
    have := desc_ge_getLast h (by simp) x hx
    have := h.le_head (List.mem_reverse.1 hx')
    omega

end Proofs.Minima
