import ClipVerif.Proofs.Arith
import Mathlib.Algebra.Group.Nat.Defs
/-
Predicates on products and cross products.  `multiplyUInt64` is the exact 128-bit product (`mulU64_correct`), so
`productsAreEqual` and `isCollinear` are exact for factors up to 2^53 other than 1, which `triSign` takes for 0.  The float
`CrossProduct` of points in range has the sign of the exact `crossZ` (`crossProduct_sign`), and `segsIntersect`
looks at nothing but such signs.
The Mathlib import fixes what `2 ^ 64 : ℕ` means in the statements below: Mathlib's `Monoid.npow`, as in
Props/C14.lean, which restates them (without it the same text elaborates to core's `Nat.pow` instance).
-/
namespace Proofs.C14
open Gen Proofs.Arith

theorem and_mask (n : Nat) : n &&& 4294967295 = n % 2^32 := by
  have := @Nat.and_two_pow_sub_one_eq_mod n 32
  simpa using this

theorem or_disjoint (x y : Nat) (hy : y < 2^32) : (x * 2^32) ||| y = x * 2^32 + y := by
  rw [Nat.mul_comm]
  exact (Nat.two_pow_add_eq_or_of_lt hy x).symm

theorem mul_lt32 {x y : Nat} (hx : x < 2^32) (hy : y < 2^32) : x * y ≤ (2^32-1)*(2^32-1) :=
  Nat.mul_le_mul (by omega) (by omega)

theorem mulU64_correct (a b : UInt64) :
    (multiplyUInt64 a b).Hi64.toNat * 2 ^ 64 + (multiplyUInt64 a b).Lo64.toNat = a.toNat * b.toNat := by
  simp only [multiplyUInt64, Id.run, pure]
  simp only [UInt64.toNat_add, UInt64.toNat_mul, UInt64.toNat_and, UInt64.toNat_shiftRight, UInt64.toNat_shiftLeft, UInt64.toNat_or]
  have e32 : UInt64.toNat 32 % 64 = 32 := by decide
  have em : UInt64.toNat 4294967295 = 4294967295 := by decide
  simp only [e32, em, and_mask, Nat.shiftRight_eq_div_pow, Nat.shiftLeft_eq]
  have ha := a.toNat_lt
  have hb := b.toNat_lt
  generalize a.toNat = A at *
  generalize b.toNat = B at *
  have hal : A % 2^32 < 2^32 := Nat.mod_lt _ (by decide)
  have hbl : B % 2^32 < 2^32 := Nat.mod_lt _ (by decide)
  have hah : A / 2^32 < 2^32 := by omega
  have hbh : B / 2^32 < 2^32 := by omega
  have hA : A = 2^32 * (A / 2^32) + A % 2^32 := (Nat.div_add_mod A _).symm
  have hB : B = 2^32 * (B / 2^32) + B % 2^32 := (Nat.div_add_mod B _).symm
  generalize A % 2^32 = al at *
  generalize A / 2^32 = ah at *
  generalize B % 2^32 = bl at *
  generalize B / 2^32 = bh at *
  have hP := mul_lt32 hah hbh
  have hQ := mul_lt32 hah hbl
  have hR := mul_lt32 hal hbh
  have hS := mul_lt32 hal hbl
  have hAB : A * B = ah*bh*2^64 + (ah*bl + al*bh)*2^32 + al*bl := by subst hA hB; grind
  rw [hAB]
  generalize ah*bh = P at *
  generalize ah*bl = Q at *
  generalize al*bh = R at *
  generalize al*bl = S at *
  -- no product, sum or shift on the way wraps
  simp (disch := omega) only [Nat.mod_eq_of_lt]
  rw [or_disjoint _ _ (Nat.mod_lt _ (by decide))]
  omega

theorem triSign_eq (x : Int64) : triSign x = if x.toInt < 0 then -1 else if x.toInt > 1 then 1 else 0 := by
  simp only [triSign, Id.run, pure, Int64.lt_iff_toInt_lt, GT.gt, decide_eq_true_eq]
  rfl

theorem triSign_spec_partial (x : Int64) (h1 : x ≠ 1) :
    triSign x = if x.toInt < 0 then -1 else if x.toInt = 0 then 0 else 1 := by
  have : x.toInt ≠ 1 := fun h => h1 (Int64.toInt_inj.mp h)
  rw [triSign_eq]
  split
  · rfl
  · by_cases h0 : x.toInt = 0
    · rw [if_pos h0, if_neg (by omega)]
    · rw [if_neg h0, if_pos (by omega)]

theorem triSign_spec_full_false :
    ¬ (∀ x : Int64, triSign x = if x.toInt < 0 then -1 else if x.toInt = 0 then 0 else 1) :=
  fun h => absurd (h 1) (by decide)

theorem cross_toInt (p1 p2 p3 : Point64) (h1 : p1.inRange) (h2 : p2.inRange) (h3 : p3.inRange) :
    ((((p2.X - p1.X)) * ((p3.Y - p2.Y))) - (((p2.Y - p1.Y)) * ((p3.X - p2.X)))).toInt = crossZ p1 p2 p3 := by
  -- in `Int64` the expression is the image of the exact value, and that fits
  have e : (p2.X - p1.X) * (p3.Y - p2.Y) - (p2.Y - p1.Y) * (p3.X - p2.X) = Int64.ofInt (crossZ p1 p2 p3) := by
    simp only [crossZ, Int64.ofInt_sub, Int64.ofInt_mul, Int64.ofInt_toInt]
  unfold Point64.inRange at h1 h2 h3
  have m1 := mul_bound (x := p2.X.toInt - p1.X.toInt) (y := p3.Y.toInt - p2.Y.toInt) (by omega) (by omega)
  have m2 := mul_bound (x := p2.Y.toInt - p1.Y.toInt) (y := p3.X.toInt - p2.X.toInt) (by omega) (by omega)
  rw [e, crossZ]
  exact Int64.toInt_ofInt_of_le (by omega) (by omega)

theorem crossProduct_sign (p1 p2 p3 : Point64) (h1 : p1.inRange) (h2 : p2.inRange) (h3 : p3.inRange) :
    (CrossProduct p1 p2 p3 = 0 ↔ crossZ p1 p2 p3 = 0) ∧
    (CrossProduct p1 p2 p3 < 0 ↔ crossZ p1 p2 p3 < 0) ∧
    (CrossProduct p1 p2 p3 > 0 ↔ crossZ p1 p2 p3 > 0) := by
  simp only [CrossProduct, Id.run, pure, F.ofInt64, cross_toInt p1 p2 p3 h1 h2 h3]
  exact round53_sign _

theorem triSign_sign (x : Int64) (h1 : x ≠ 1) : triSign x = x.toInt.sign := by
  rw [triSign_spec_partial x h1]
  split
  · rw [Int.sign_eq_neg_one_of_neg (by assumption)]
  · split
    next h => rw [h]; rfl
    · rw [Int.sign_eq_one_of_pos (by omega)]

theorem mulU64_eq_iff (a b c d : UInt64) :
    ((multiplyUInt64 a b).Lo64 = (multiplyUInt64 c d).Lo64 ∧ (multiplyUInt64 a b).Hi64 = (multiplyUInt64 c d).Hi64)
      ↔ a.toNat * b.toNat = c.toNat * d.toNat := by
  rw [← mulU64_correct a b, ← mulU64_correct c d, ← UInt64.toNat_inj, ← UInt64.toNat_inj]
  have l1 := (multiplyUInt64 a b).Lo64.toNat_lt
  have l2 := (multiplyUInt64 c d).Lo64.toNat_lt
  omega

theorem productsAreEqual_iff (a b c d : Int64) :
    productsAreEqual a b c d = true ↔
      (F.toU64 (F.abs (F.ofInt64 a))).toNat * (F.toU64 (F.abs (F.ofInt64 b))).toNat =
        (F.toU64 (F.abs (F.ofInt64 c))).toNat * (F.toU64 (F.abs (F.ofInt64 d))).toNat ∧
      triSign a * triSign b = triSign c * triSign d := by
  simp only [productsAreEqual, Id.run, pure, Bool.and_eq_true, decide_eq_true_eq]
  rw [mulU64_eq_iff]

theorem productsAreEqual_iff_partial (a b c d : Int64)
    (ha : a.toInt.natAbs ≤ 2 ^ 53) (hb : b.toInt.natAbs ≤ 2 ^ 53)
    (hc : c.toInt.natAbs ≤ 2 ^ 53) (hd : d.toInt.natAbs ≤ 2 ^ 53)
    (h1 : a ≠ 1 ∧ b ≠ 1 ∧ c ≠ 1 ∧ d ≠ 1) :
    productsAreEqual a b c d = true ↔ a.toInt * b.toInt = c.toInt * d.toInt := by
  obtain ⟨ha1, hb1, hc1, hd1⟩ := h1
  rw [productsAreEqual_iff, absU64_toNat ha, absU64_toNat hb, absU64_toNat hc, absU64_toNat hd,
    triSign_sign a ha1, triSign_sign b hb1, triSign_sign c hc1, triSign_sign d hd1,
    int_eq_iff_natAbs_sign (a.toInt * b.toInt), Int.natAbs_mul, Int.natAbs_mul, Int.sign_mul, Int.sign_mul]

theorem isCollinear_iff_cross_zero_partial (p1 p2 p3 : Point64)
    (h1 : p1.inRange) (h2 : p2.inRange) (h3 : p3.inRange)
    (hne : p2.X - p1.X ≠ 1 ∧ p3.Y - p2.Y ≠ 1 ∧ p2.Y - p1.Y ≠ 1 ∧ p3.X - p2.X ≠ 1) :
    isCollinear p1 p2 p3 = true ↔ crossZ p1 p2 p3 = 0 := by
  obtain ⟨e1, e3⟩ := sub_toInt h2 h1
  obtain ⟨e4, e2⟩ := sub_toInt h3 h2
  unfold Point64.inRange at h1 h2 h3
  simp only [isCollinear, Id.run, pure]
  rw [productsAreEqual_iff_partial _ _ _ _ (by omega) (by omega) (by omega) (by omega) hne,
    e1, e2, e3, e4]
  unfold crossZ
  omega

theorem absU64_zero : (F.toU64 (F.abs (F.ofInt64 0))).toNat = 0 := absU64_toNat (by decide)

theorem triSign_zero : triSign 0 = 0 := by decide

theorem isCollinear_self_left (p x : Point64) : isCollinear p p x = true := by
  simp only [isCollinear, Id.run, pure, Int64.sub_self, productsAreEqual_iff, absU64_zero, triSign_zero,
    Nat.zero_mul, Int.zero_mul, and_self]

theorem isCollinear_self_right (p c : Point64) : isCollinear p c c = true := by
  simp only [isCollinear, Id.run, pure, Int64.sub_self, productsAreEqual_iff, absU64_zero, triSign_zero,
    Nat.mul_zero, Int.mul_zero, and_self]

theorem isCollinear_full_false :
    isCollinear ⟨0, 0⟩ ⟨1, 2⟩ ⟨2, 0⟩ = true ∧ crossZ ⟨0, 0⟩ ⟨1, 2⟩ ⟨2, 0⟩ = -4 := by
  decide

end Proofs.C14

namespace Proofs.C14c
open Gen Proofs.Arith Proofs.C14

theorem segsIntersect_exclusive_exact (a b c d : Point64)
    (ha : a.inRange) (hb : b.inRange) (hc : c.inRange) (hd : d.inRange) :
    segsIntersect a b c d false = true ↔
      (crossZ a c d * crossZ b c d < 0 ∧ crossZ c a b * crossZ d a b < 0) := by
  have e : segsIntersect a b c d false =
      (decide (CrossProduct a c d * CrossProduct b c d < 0) &&
        decide (CrossProduct c a b * CrossProduct d a b < 0)) := rfl
  rw [e, Bool.and_eq_true, decide_eq_true_eq, decide_eq_true_eq,
    (mul_sign_congr (crossProduct_sign a c d ha hc hd) (crossProduct_sign b c d hb hc hd)).1,
    (mul_sign_congr (crossProduct_sign c a b hc ha hb) (crossProduct_sign d a b hd ha hb)).1]

theorem segsIntersect_inclusive_exact (a b c d : Point64)
    (ha : a.inRange) (hb : b.inRange) (hc : c.inRange) (hd : d.inRange) :
    segsIntersect a b c d true = true ↔
      (¬ (0 < crossZ a c d * crossZ b c d) ∧ ¬ (0 < crossZ c a b * crossZ d a b) ∧
       ¬ (crossZ a c d = 0 ∧ crossZ b c d = 0 ∧ crossZ c a b = 0 ∧ crossZ d a b = 0)) := by
  have s1 := crossProduct_sign a c d ha hc hd
  have s2 := crossProduct_sign b c d hb hc hd
  have s3 := crossProduct_sign c a b hc ha hb
  have s4 := crossProduct_sign d a b hd ha hb
  have e : segsIntersect a b c d true =
      (if decide (0 < CrossProduct a c d * CrossProduct b c d) = true then false
      else if decide (0 < CrossProduct c a b * CrossProduct d a b) = true then false
      else decide (CrossProduct a c d ≠ 0) || decide (CrossProduct b c d ≠ 0) ||
        decide (CrossProduct c a b ≠ 0) || decide (CrossProduct d a b ≠ 0)) := rfl
  rw [e, ← (mul_sign_congr s1 s2).2, ← (mul_sign_congr s3 s4).2, ← s1.1, ← s2.1, ← s3.1, ← s4.1]
  -- what is left is the function read off: neither early return is taken, and some result is not zero
  simp only [decide_eq_true_eq, ne_eq, decide_not, Bool.if_false_left, Bool.and_eq_true, Bool.not_eq_eq_eq_not,
    Bool.not_true, decide_eq_false_iff_not, Bool.or_eq_true, or_assoc, Decidable.not_and_iff_not_or_not]

end Proofs.C14c
