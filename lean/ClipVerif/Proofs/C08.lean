import ClipVerif.Model.Lists
import ClipVerif.Proofs.C03
namespace Proofs.C08
open Gen Model

theorem minkowski_count (pattern path : Array Point64) (isSum isClosed : Bool) (r : List (List Point64))
    (h : minkowski pattern path isSum isClosed = .ok r) :
    r.length = (path.size - (if isClosed then 0 else 1)) * pattern.size :=
  ((Proofs.C03.minkowski_spec pattern path isSum isClosed).of_eq h).1

theorem minkowski_quads (pattern path : Array Point64) (isSum isClosed : Bool) (r : List (List Point64))
    (h : minkowski pattern path isSum isClosed = .ok r) : ∀ q ∈ r, q.length = 4 :=
  ((Proofs.C03.minkowski_spec pattern path isSum isClosed).of_eq h).2

end Proofs.C08
