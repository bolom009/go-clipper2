import ClipVerif.Proofs.IntersectList
/-
Proofs about `Model.Ix.process` (the loop of `processIntersectList`): when the node list holds exactly
the inversions of the AEL, in any order, the scan for the next node with adjacent edges always finds one
(the real code never indexes past the end of `intersectList`), `swapPositionsInAEL` is always called
with `edge1` immediately left of `edge2`, every node is processed once, and the AEL ends up sorted.

The invariant of the loop is the hypothesis itself: what is left of the node list is a permutation of the
inversions `invOf` of the current AEL.  A list with an inversion has one between neighbours (`exists_adjacent`), and
swapping two neighbours that form an inversion removes that inversion and no other (`swap_step`).  `P` is any
relation that holds from `b` to `a` whenever `b` is strictly left of `a`; such swaps keep `Pairwise P`, which is
how Props/C03.lean gets that edges with equal x keep their order.
-/
namespace Proofs.IxProc
open Model.Ix

/-- inversions of an AEL `ael` (edge indices, no duplicates) with respect to the x values `key` -/
def invOf (key : Nat → Int) : List Nat → List Node
  | [] => []
  | a :: t => ((t.filter fun b => decide (key b < key a)).map fun b => (a, b)) ++ invOf key t

theorem mem_invOf_cons {key : Nat → Int} {x : Nat} {t : List Nat} {a b : Nat} :
    (a, b) ∈ invOf key (x :: t) ↔ (b ∈ t ∧ key b < key x) ∧ x = a ∨ (a, b) ∈ invOf key t := by
  simp [invOf]

theorem mem_invOf {key : Nat → Int} {l : List Nat} {a b : Nat} (h : (a, b) ∈ invOf key l) :
    a ∈ l ∧ b ∈ l ∧ key b < key a := by
  induction l with
  | nil => simp [invOf] at h
  | cons c t ih =>
    rcases mem_invOf_cons.1 h with ⟨⟨hb, hk⟩, rfl⟩ | h
    · exact ⟨List.mem_cons_self, List.mem_cons_of_mem _ hb, hk⟩
    · exact ⟨List.mem_cons_of_mem _ (ih h).1, List.mem_cons_of_mem _ (ih h).2.1, (ih h).2.2⟩

theorem invOf_eq_nil {key : Nat → Int} {l : List Nat} :
    invOf key l = [] ↔ l.Pairwise fun a b => key a ≤ key b := by
  induction l with
  | nil => simp [invOf]
  | cons c t ih =>
    simp only [invOf, List.append_eq_nil_iff, List.map_eq_nil_iff, List.filter_eq_nil_iff, decide_eq_true_eq,
      Int.not_lt, ih, List.pairwise_cons]

theorem adjacent_mem {l : List Nat} {m : Node} (h : adjacent l m = true) : m.1 ∈ l ∧ m.2 ∈ l := by
  fun_induction adjacent l m with
  | case1 x y t n ih =>
    simp only [Bool.or_eq_true, Bool.and_eq_true, beq_iff_eq] at h
    rcases h with (⟨rfl, rfl⟩ | ⟨rfl, rfl⟩) | h
    · simp
    · simp
    · have := ih h
      exact ⟨List.mem_cons_of_mem _ this.1, List.mem_cons_of_mem _ this.2⟩
  | case2 => simp at h

theorem exists_adjacent {key : Nat → Int} {l : List Nat} (h : invOf key l ≠ []) :
    ∃ m ∈ invOf key l, adjacent l m = true := by
  induction l with
  | nil => exact absurd rfl h
  | cons x t ih =>
    cases t with
    | nil => exact absurd rfl h
    | cons y t =>
      by_cases hk : key y < key x
      · exact ⟨(x, y), mem_invOf_cons.2 (.inl ⟨⟨List.mem_cons_self, hk⟩, rfl⟩), by simp [adjacent]⟩
      · by_cases h2 : invOf key (y :: t) = []
        · have hs := invOf_eq_nil.1 h2
          exact absurd (invOf_eq_nil.2 (List.pairwise_cons.2 ⟨fun b hb => Int.le_trans (Int.not_lt.1 hk)
            (List.Pairwise.head_rel hs (fun _ => Int.le_refl _) b hb), hs⟩)) h
        · obtain ⟨m, hm, ha⟩ := ih h2
          exact ⟨m, List.mem_append_right _ hm, by rw [adjacent, ha, Bool.or_true]⟩

theorem swap_step {key : Nat → Int} {P : Nat → Nat → Prop} (hP : ∀ a b, key b < key a → P b a)
    {l : List Nat} {m : Node} (hnd : l.Nodup) (hadj : adjacent l m = true) (hm : m ∈ invOf key l) :
    ∃ l', swapAdj l m.1 m.2 = some l' ∧ l'.Perm l ∧ (m :: invOf key l').Perm (invOf key l) ∧
      (l.Pairwise P → l'.Pairwise P) := by
  fun_induction adjacent l m with
  | case2 => simp at hadj
  | case1 x y t n ih =>
    obtain ⟨a, b⟩ := n
    obtain ⟨hx, hnd2⟩ := List.nodup_cons.1 hnd
    have hk : key b < key a := (mem_invOf hm).2.2
    simp only [Bool.or_eq_true, Bool.and_eq_true, beq_iff_eq] at hadj
    rcases hadj with (⟨rfl, rfl⟩ | ⟨rfl, rfl⟩) | hadj
    · refine ⟨y :: x :: t, by simp [swapAdj], .swap .., ?_, ?_⟩
      · have hk' : ¬ key x < key y := Int.lt_asymm hk
        simp only [invOf, List.filter_cons, hk, hk', decide_true, decide_false, if_true, List.map_cons,
          List.cons_append]
        refine List.Perm.cons _ ?_
        simp only [← List.append_assoc]
        exact List.Perm.append_right _ List.perm_append_comm
      · simp only [List.pairwise_cons, List.mem_cons, forall_eq_or_imp]
        exact fun ⟨⟨_, h1⟩, h2, h3⟩ => ⟨⟨hP _ _ hk, h2⟩, h1, h3⟩
    · -- the wrong way round: `x` would have to occur again after `y`
      rcases mem_invOf_cons.1 hm with ⟨_, rfl⟩ | hm
      · exact absurd List.mem_cons_self hx
      · exact absurd (mem_invOf hm).2.1 hx
    · have hxa : x ≠ a := fun e => hx (e ▸ (adjacent_mem hadj).1)
      obtain ⟨t', hs, hperm, hinv, hpw⟩ :=
        ih hnd2 hadj ((mem_invOf_cons.1 hm).resolve_left fun h => hxa h.2)
      refine ⟨x :: t', by simp [swapAdj, hxa, hs], hperm.cons _, ?_, ?_⟩
      · exact List.perm_middle.symm.trans (((hperm.filter _).map _).append hinv)
      · intro hp
        rw [List.pairwise_cons] at hp ⊢
        exact ⟨fun c hc => hp.1 c (hperm.mem_iff.1 hc), hpw hp.2⟩

/-- one round of the loop: the node the scan stops at is an inversion whose edges are adjacent, so the swap
is legal, and what is left of the node list is again the inversions of the AEL -/
theorem process_round {key : Nat → Int} {P : Nat → Nat → Prop} (hP : ∀ a b, key b < key a → P b a)
    {n : Node} {rest : List Node} {ael : List Nat} {j : Nat} (hnd : ael.Nodup)
    (h : (n :: rest).Perm (invOf key ael)) (hf : (n :: rest).findIdx? (adjacent ael) = some j)
    {m : Node} {rest' : List Node} (hm : m = (n :: rest)[j]!)
    (hr : rest' = if j = 0 then rest else rest.set (j - 1) n) :
    ∃ ael', swapAdj ael m.1 m.2 = some ael' ∧ ael'.Perm ael ∧ (m :: rest').Perm (n :: rest) ∧
      rest'.Perm (invOf key ael') ∧ (ael.Pairwise P → ael'.Pairwise P) := by
  rw [List.findIdx?_eq_some_iff_getElem] at hf
  obtain ⟨hj, hadj, _⟩ := hf
  rw [getElem!_pos (n :: rest) j hj] at hm
  have hrest : (m :: rest').Perm (n :: rest) := by
    subst hm hr
    cases j with
    | zero => exact .refl _
    | succ j' => exact List.set_perm n rest j' (by simpa using hj)
  obtain ⟨ael', hs, hperm, hinv, hpw⟩ :=
    swap_step hP hnd (hm ▸ hadj) ((hrest.trans h).mem_iff.1 List.mem_cons_self)
  exact ⟨ael', hs, hperm, hrest, ((hrest.trans h).trans hinv.symm).cons_inv, hpw⟩

theorem process_inv (key : Nat → Int) (P : Nat → Nat → Prop) (hP : ∀ a b, key b < key a → P b a)
    (ns : List Node) (ael : List Nat) (hnd : ael.Nodup) (h : ns.Perm (invOf key ael)) (hp : ael.Pairwise P) :
    ∃ done ael', process ns ael = some (done, ael') ∧ done.Perm ns ∧ ael'.Perm ael ∧
      ael'.Pairwise (fun a b => key a ≤ key b) ∧ ael'.Pairwise P := by
  fun_induction process ns ael with
  | case1 ael => exact ⟨[], ael, rfl, .refl _, .refl _, invOf_eq_nil.1 h.symm.eq_nil, hp⟩
  | case2 n rest ael hf =>
    obtain ⟨m, hm, hadj⟩ := exists_adjacent (key := key) (l := ael) fun e => by simp [e] at h
    rw [List.findIdx?_eq_none_iff] at hf
    simpa [hadj] using hf m (h.mem_iff.2 hm)
  | case3 n rest ael j hf m hs =>
    obtain ⟨ael', hs', _⟩ := process_round hP hnd h hf rfl rfl
    exact absurd (hs.symm.trans hs') (by simp)
  | case4 n rest ael j hf m rest' ael' hs ih =>
    obtain ⟨ael'', hs', hperm, hrest, hinv, hpw⟩ := process_round hP hnd h hf rfl rfl
    obtain rfl : ael' = ael'' := Option.some.inj (hs.symm.trans hs')
    obtain ⟨done, ael'', hproc, hd, ha, hsort, hpw2⟩ := ih (hperm.nodup_iff.2 hnd) hinv (hpw hp)
    exact ⟨m :: done, ael'', by simp [hproc], (hd.cons _).trans hrest, ha.trans hperm, hsort, hpw2⟩

theorem pairwise_idxOf (l : List Nat) (hnd : l.Nodup) : l.Pairwise (fun a b => l.idxOf a < l.idxOf b) := by
  rw [List.pairwise_iff_getElem]
  intro i j hi hj hij
  rwa [hnd.idxOf_getElem, hnd.idxOf_getElem]

theorem pinv_map (key : Nat → Int) (l : List Nat) :
    Proofs.Ix.pinv (l.map fun i => (i, key i)) = invOf key l := by
  induction l with
  | nil => rfl
  | cons a t ih =>
    simp [Proofs.Ix.pinv, Proofs.Ix.cross, invOf, List.filter_map, Function.comp_def, ih]

theorem inversions_eq (xs : List Int) :
    inversions xs = invOf (fun i => xs[i]!) (List.range xs.length) := by
  rw [← Proofs.Ix.pinv_index, Proofs.Ix.index_eq, pinv_map]

theorem process_total (xs : List Int) (ns : List Node) (h : ns.Perm (inversions xs)) :
    ∃ done ael', process ns (List.range xs.length) = some (done, ael') ∧ done.Perm ns ∧
      ael'.Perm (List.range xs.length) ∧ ael'.Pairwise (fun a b => xs[a]! ≤ xs[b]!) := by
  rw [inversions_eq] at h
  obtain ⟨done, ael', h1, h2, h3, h4, _⟩ :=
    process_inv (fun i => xs[i]!) (fun _ _ => True) (fun _ _ _ => trivial) ns _ List.nodup_range h
      (List.pairwise_of_forall fun _ _ => trivial)
  exact ⟨done, ael', h1, h2, h3, h4⟩

end Proofs.IxProc
