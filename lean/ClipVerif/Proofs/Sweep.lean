import ClipVerif.Proofs.WindIx
import ClipVerif.Proofs.Basic
/- The abstract sweep (`Model.sweepStep`) keeps its invariant. Each operation replaces a middle
   segment of the list: nothing by the two bounds of a local minimum, a pair by the pair after its
   intersection, a cancelling pair by nothing. `inv_replace` asks three things of the new segment:
   its edges are `Good`, they carry the right counts after the unchanged left part, and the segment
   is `PEq` to the old one, so that the right part notices nothing. -/
namespace Proofs.Sweep
open Gen Spec Model Proofs.Wind Proofs.WindIx

def Good (ct fr : Nat) (h : HEdge) : Prop :=
  WF h.e ∧ isOpen h.e = false ∧ h.hot = contributing ct fr h.e

theorem sweepInv_iff (ct fr : Nat) (s : List HEdge) :
    SweepInv ct fr s ↔ (∀ h ∈ s, Good ct fr h) ∧ AelOK fr [] (s.map (·.e)) := Iff.rfl

theorem sweepInv_append_iff {ct fr : Nat} {A M B : List HEdge} :
    SweepInv ct fr (A ++ M ++ B) ↔
      ((∀ x ∈ A, Good ct fr x) ∧ (∀ x ∈ M, Good ct fr x) ∧ ∀ x ∈ B, Good ct fr x) ∧
      AelOK fr [] (A.map (·.e)) ∧ AelOK fr (A.map (·.e)) (M.map (·.e)) ∧
      AelOK fr (A.map (·.e) ++ M.map (·.e)) (B.map (·.e)) := by
  rw [sweepInv_iff, List.map_append, List.map_append, aelOK_append_iff, aelOK_append_iff]
  simp only [List.nil_append, List.forall_mem_append, and_assoc]

theorem inv_replace {ct fr : Nat} {A M B M' : List HEdge} (h : SweepInv ct fr (A ++ M ++ B))
    (hg : ∀ x ∈ M', Good ct fr x) (hok : AelOK fr (A.map (·.e)) (M'.map (·.e)))
    (hp : PEq (M.map (·.e)) (M'.map (·.e))) : SweepInv ct fr (A ++ M' ++ B) := by
  obtain ⟨⟨hA, _, hB⟩, h1, _, h3⟩ := sweepInv_append_iff.1 h
  exact sweepInv_append_iff.2
    ⟨⟨hA, hg, hB⟩, h1, hok, aelOK_congr ((PEq.refl _).append hp) h3⟩

theorem at_pair {ct fr : Nat} {A B : List HEdge} {a b : HEdge} (h : SweepInv ct fr (A ++ [a, b] ++ B)) :
    Good ct fr a ∧ Good ct fr b ∧
    EdgeOK fr (A.map (·.e)) a.e ∧ EdgeOK fr (A.map (·.e) ++ [a.e]) b.e := by
  obtain ⟨⟨_, hM, _⟩, _, hab, _⟩ := sweepInv_append_iff.1 h
  have ga := hM a (List.mem_cons_self ..)
  have gb := hM b (List.mem_cons_of_mem _ (List.mem_cons_self ..))
  rw [List.map_cons, List.map_cons, List.map_nil, aelOK_pair] at hab
  exact ⟨ga, gb, hab.1 ga.2.1, hab.2 gb.2.1⟩

theorem remove_preserves {ct fr : Nat} {s : List HEdge} (k : Nat) (h : SweepInv ct fr s) :
    SweepInv ct fr (sweepStep ct fr s (.remove k)) := by
  simp only [sweepStep]
  split
  next hk =>
    split
    next hc =>
      have h' := List.eq_take_pair_drop s k hk ▸ h
      obtain ⟨ga, gb, _, _⟩ := at_pair h'
      have := inv_replace h' (M' := []) (by simp) trivial
        (PEq_pair_nil (closed_localMin_eq ga.2.1 gb.2.1 hc.1) hc.2)
      simpa using this
    · exact h
  · exact h

theorem swap_preserves {ct fr : Nat} (hct : ct = 1 ∨ ct = 2 ∨ ct = 3 ∨ ct = 4) (hfr : fr ≤ 3)
    {s : List HEdge} (k : Nat) (f sm : Bool) (h : SweepInv ct fr s) :
    SweepInv ct fr (sweepStep ct fr s (.swap k f sm)) := by
  simp only [sweepStep]
  split
  next hk =>
    have h' := List.eq_take_pair_drop s k hk ▸ h
    obtain ⟨⟨hwa, hca, hha⟩, ⟨hwb, hcb, hhb⟩, h1, h2⟩ := at_pair h'
    generalize s[k] = a at *
    generalize s[k+1] = b at *
    obtain ⟨hC2, hC1⟩ := intersectWind_correct fr _ a.e b.e hwa hwb hca hcb h1 h2
    have hH := hot_after f sm hct hfr hwa hwb hca hcb h1 h2
    obtain ⟨hd1, hl1, hd2, hl2⟩ := intersectWind_frame fr a.e b.e
    rw [hha, hhb, contributing_mkEng, contributing_mkEng, intersectDecide_fst, intersectDecide_snd]
    simp only [hH]
    apply inv_replace h'
    · exact List.forall_mem_cons.2 ⟨⟨WF_congr hd2 hl2 hwb, (isOpen_congr hl2).trans hcb, rfl⟩,
        List.forall_mem_singleton.2 ⟨WF_congr hd1 hl1 hwa, (isOpen_congr hl1).trans hca, rfl⟩⟩
    · exact (aelOK_pair ..).2 ⟨fun _ => hC2, fun _ => hC1⟩
    · exact (PEq_swap a.e b.e).trans ((PEq_single hd2 hl2).append (PEq_single hd1 hl1)).symm
  · exact h

/-- the right bound of a local minimum copies the counts of the left bound -/
theorem edgeOK_second {fr : Nat} {L : List Active} {e1 : Active} (hw : WF e1) (hc : isOpen e1 = false)
    (h : EdgeOK fr L e1) : EdgeOK fr (L ++ [e1]) { e1 with windDx := -e1.windDx } := by
  rw [edgeOK_iff] at h ⊢
  refine ⟨?_, h.2.trans (kept_snoc_other (isClosedOf_other hw)).symm⟩
  have ho := h.1
  by_cases hfr : fr = 0
  · rw [if_pos hfr] at ho ⊢; exact ho
  · rw [if_neg hfr] at ho ⊢
    show e1.windCount = encSides (kept fr (getPolyType e1) (L ++ [e1])) (-e1.windDx)
    rw [kept_snoc_own (isClosedOf_self hc), if_neg hfr, C01.encSides_flip]
    exact ho

theorem insert_preserves {ct fr : Nat} {s : List HEdge} (k pt : Nat) (dx : Int) (h : SweepInv ct fr s) :
    SweepInv ct fr (sweepStep ct fr s (.insert k pt dx)) := by
  simp only [sweepStep]
  split
  next hc =>
    obtain ⟨_, hdx, hpt⟩ := hc
    have h' : SweepInv ct fr (s.take k ++ [] ++ s.drop k) := by
      simpa using h
    obtain ⟨⟨hA, _, _⟩, hokA, _, _⟩ := sweepInv_append_iff.1 h'
    have hLwf : ∀ a ∈ (s.take k).map (·.e), WF a := List.forall_mem_map.2 fun x hx => (hA x hx).1
    have hwf : WF (Active.mk dx 0 0 { PolyType := pt, IsOpen := false }) := ⟨hdx, hpt⟩
    -- the left bound as `setWindCountClosed` leaves it: the fresh edge with its two counts filled in
    have hE := setWindCount_closed_correct fr _ _ hLwf hwf rfl rfl hokA
    rw [setWindCountClosed_eq hLwf hwf rfl rfl hokA] at hE ⊢
    apply inv_replace h'
    · exact List.forall_mem_cons.2 ⟨⟨hwf, rfl, rfl⟩,
        List.forall_mem_singleton.2 ⟨⟨(by omega : -dx = 1 ∨ -dx = -1), hpt⟩, rfl, rfl⟩⟩
    · exact (aelOK_pair ..).2 ⟨fun _ => hE, fun _ => edgeOK_second hwf rfl hE⟩
    · exact PEq.symm (PEq_pair_nil rfl (Int.neg_neg _).symm)
  · exact h

theorem sweepStep_preserves (ct fr : Nat) (hct : ct = 1 ∨ ct = 2 ∨ ct = 3 ∨ ct = 4) (hfr : fr ≤ 3)
    (s : List HEdge) (op : SweepOp) (h : SweepInv ct fr s) : SweepInv ct fr (sweepStep ct fr s op) := by
  cases op with
  | insert k pt dx => exact insert_preserves k pt dx h
  | swap k f sm => exact swap_preserves hct hfr k f sm h
  | remove k => exact remove_preserves k h

theorem sweepInv_nil (ct fr : Nat) : SweepInv ct fr [] :=
  ⟨fun _ hx => absurd hx List.not_mem_nil, trivial⟩

theorem sweep_from {ct fr : Nat} (hct : ct = 1 ∨ ct = 2 ∨ ct = 3 ∨ ct = 4) (hfr : fr ≤ 3)
    (ops : List SweepOp) {s : List HEdge} (h : SweepInv ct fr s) :
    SweepInv ct fr (ops.foldl (sweepStep ct fr) s) :=
  List.foldlRecOn ops _ h fun s h op _ => sweepStep_preserves ct fr hct hfr s op h

theorem sweep_invariant (ct fr : Nat) (hct : ct = 1 ∨ ct = 2 ∨ ct = 3 ∨ ct = 4) (hfr : fr ≤ 3)
    (ops : List SweepOp) : SweepInv ct fr (ops.foldl (sweepStep ct fr) []) :=
  sweep_from hct hfr ops (sweepInv_nil ct fr)

theorem sweepStep_length_insert (ct fr : Nat) (s : List HEdge) (k pt : Nat) (dx : Int)
    (hk : k ≤ s.length) (hdx : dx = 1 ∨ dx = -1) (hpt : pt = 0 ∨ pt = 1) :
    (sweepStep ct fr s (.insert k pt dx)).length = s.length + 2 := by
  simp only [sweepStep]
  rw [if_pos ⟨hk, hdx, hpt⟩]
  simp
  omega

theorem sweepStep_length_swap (ct fr : Nat) (s : List HEdge) (k : Nat) (f sm : Bool) :
    (sweepStep ct fr s (.swap k f sm)).length = s.length := by
  simp only [sweepStep]
  split
  · simp; omega
  · rfl

theorem example_len :
    ([SweepOp.insert 0 0 1, SweepOp.insert 1 1 1, SweepOp.swap 1 true false].foldl (sweepStep 2 1) []).length = 4 := by
  decide

end Proofs.Sweep
