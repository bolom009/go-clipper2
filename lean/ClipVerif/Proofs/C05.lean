import ClipVerif.Proofs.Dedup
namespace Proofs.C05
open Gen Model Proofs.Dedup

theorem strip_sublist (path : List Point64) (closed : Bool) :
    (stripDuplicates path closed).Sublist path := by
  rw [stripDuplicates_eq]
  split
  · exact (unclose_sublist _).trans (dedup_sublist path)
  · exact dedup_sublist path

theorem strip_noAdj (path : List Point64) (closed : Bool) : NoAdj (stripDuplicates path closed) := by
  rw [stripDuplicates_eq]
  split
  · exact (dedup_noAdj path).unclose
  · exact dedup_noAdj path

theorem strip_no_adjacent_dups (path : List Point64) (closed : Bool) :
    ∀ i, (h : i + 1 < (stripDuplicates path closed).length) →
      (stripDuplicates path closed)[i] ≠ (stripDuplicates path closed)[i + 1] :=
  NoAdj.iff_getElem.1 (strip_noAdj path closed)

theorem strip_closed_ends_differ (path : List Point64) (h : 1 < (stripDuplicates path true).length) :
    (stripDuplicates path true).head? ≠ (stripDuplicates path true).getLast? := by
  rw [stripDuplicates_eq] at h ⊢
  exact unclose_ends (dedup_noAdj path) h

/-- `C05.strip_id_partial` needs its `h3`: a one-point closed path meets the other two hypotheses and is emptied -/
theorem strip_id_counterexample :
    let a : Point64 := ⟨0, 0⟩
    (∀ i, (h : i + 1 < [a].length) → [a][i] ≠ [a][i + 1]) ∧
    (true = true → 1 < [a].length → [a].head? ≠ [a].getLast?) ∧
    stripDuplicates [a] true ≠ [a] := by
  refine ⟨fun i h => by simp at h, fun _ h => by simp at h, by decide⟩

end Proofs.C05
