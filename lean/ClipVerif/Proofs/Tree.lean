import ClipVerif.Model.Tree
import ClipVerif.Proofs.OwnerGraph
import ClipVerif.Proofs.Basic
/-
Proofs about the owner search of the PolyTree builder (`Model.Tree`): the owner links stay acyclic,
the fuel of `isValidOwner`, `ownerLoop` and `recursiveCheckOwners` never runs out, a record is attached
only below a placed record with points that contains it, and exactly the records with points are
placed.  Nothing is claimed about the fuel of `checkSplitOwner` and `realOutRec`: the results hold
whether or not it suffices.
-/
namespace Proofs.Tree
open Model Proofs.OwnerGraph

theorem get_oob {t : Table} {i : Nat} (h : t.size ≤ i) : t[i]! = default := by
  simp [h]

theorem hasPts_lt {t : Table} {i : Nat} (h : t[i]!.hasPts = true) : i < t.size :=
  Nat.lt_of_not_le fun hn => by rw [get_oob hn] at h; cases h

def ow (t : Table) (i : Nat) : Option Nat := t[i]!.owner

theorem ow_lt {t : Table} {a b : Nat} (h : ow t a = some b) : a < t.size :=
  Nat.lt_of_not_le fun hn => by rw [ow, get_oob hn] at h; cases h

/-- a record with an owner is in the table, so owner walks with fuel `size + 1` see the whole chain -/
theorem ends_ow {t : Table} (h : Acyc (ow t)) (a : Nat) : EndsIn (ow t) (t.size + 1) (some a) :=
  endsIn_of_acyc h (fun _ _ => ow_lt) a

/-- at most owner links, marks and `splits` differ -/
structure Frame (t t' : Table) : Prop where
  size : t'.size = t.size
  hasPts : ∀ y : Nat, t'[y]!.hasPts = t[y]!.hasPts
  placed : ∀ y : Nat, t'[y]!.placed = t[y]!.placed
  parent : ∀ y : Nat, t'[y]!.parent = t[y]!.parent

theorem Frame.refl (t : Table) : Frame t t := ⟨rfl, fun _ => rfl, fun _ => rfl, fun _ => rfl⟩

theorem Frame.trans {t t1 t2 : Table} (h1 : Frame t t1) (h2 : Frame t1 t2) : Frame t t2 :=
  ⟨h2.size.trans h1.size, fun y => (h2.hasPts y).trans (h1.hasPts y),
   fun y => (h2.placed y).trans (h1.placed y), fun y => (h2.parent y).trans (h1.parent y)⟩

/-- at most marks and `splits` differ -/
structure Marked (t t' : Table) : Prop extends Frame t t' where
  links : ow t' = ow t

theorem Marked.refl (t : Table) : Marked t t := ⟨Frame.refl t, rfl⟩

theorem Marked.trans {t t1 t2 : Table} (h1 : Marked t t1) (h2 : Marked t1 t2) : Marked t t2 :=
  ⟨h1.toFrame.trans h2.toFrame, h2.links.trans h1.links⟩

theorem marked_mark (t : Table) (i : Nat) (m : Option Nat) :
    Marked t (t.modify i (fun r => { r with mark := m })) := by
  refine ⟨⟨by simp, fun y => ?_, fun y => ?_, fun y => ?_⟩,
    funext fun y => show (t.modify i _)[y]!.owner = _ from ?_⟩ <;>
    (rw [Array.getElem!_modify]; split <;> rfl)

def relink (t : Table) (y : Nat) (w : Option Nat) : Table :=
  t.modify y (fun r => { r with owner := w })

theorem frame_relink (t : Table) (y : Nat) (w : Option Nat) : Frame t (relink t y w) := by
  refine ⟨by simp [relink], fun y => ?_, fun y => ?_, fun y => ?_⟩ <;>
    (rw [relink, Array.getElem!_modify]; split <;> rfl)

theorem ow_relink {t : Table} {y : Nat} (w : Option Nat) (hy : t[y]!.hasPts = true) :
    ow (relink t y w) = upd (ow t) y w := by
  funext z
  unfold ow
  rw [relink, Array.getElem!_modify]
  by_cases h : z = y
  · rw [h, upd_same, if_pos ⟨rfl, hasPts_lt hy⟩]
  · rw [upd_ne h, if_neg (fun e => h e.1.symm)]

theorem realOutRec_some {t : Table} {f s : Nat} {o : Option Nat} (h : realOutRec t f o = some s) :
    t[s]!.hasPts = true := by
  induction f generalizing o with
  | zero => cases h
  | succ f ih =>
    cases o with
    | none => cases h
    | some i =>
      rw [realOutRec] at h
      split at h
      · cases h
        assumption
      · exact ih h

theorem isValidOwner_eq (t : Table) (x f : Nat) (o : Option Nat) :
    isValidOwner t x f o = !finds (ow t) x f o := by
  induction f generalizing o with
  | zero => rfl
  | succ f ih =>
    cases o with
    | none => rfl
    | some k =>
      rw [isValidOwner, finds, ih]
      by_cases h : k = x
      · rw [if_pos h, beq_iff_eq.2 h]
        rfl
      · rw [if_neg h, beq_false_of_ne h]
        rfl

structure Inv (g : Geo) (t : Table) : Prop where
  acyc : Acyc (ow t)
  par : ∀ i p : Nat, t[i]!.parent = some p → g.inside i p = true ∧ t[p]!.hasPts = true
  pp : ∀ i : Nat, t[i]!.placed = true → t[i]!.hasPts = true

def Above (g : Geo) (x y : Nat) : Prop := y = x ∨ g.inside x y = true

/-- `t'` is `t` after work on behalf of `x`: the invariant holds again, placed records stay placed,
    and only `x` and records that contain `x` have new owner links -/
structure Step (g : Geo) (x : Nat) (t t' : Table) : Prop where
  size : t'.size = t.size
  hasPts : ∀ y : Nat, t'[y]!.hasPts = t[y]!.hasPts
  mono : ∀ y : Nat, t[y]!.placed = true → t'[y]!.placed = true
  inv : Inv g t'
  other : ∀ y, ¬ Above g x y → ow t' y = ow t y

def Settled (g : Geo) (t : Table) (x : Nat) : Prop :=
  ∀ o, ow t x = some o → t[o]!.hasPts = true ∧ g.inside x o = true

section
variable {g : Geo} {t t' : Table} {x : Nat}

theorem Step.refl (x : Nat) (h : Inv g t) : Step g x t t :=
  ⟨rfl, fun _ => rfl, fun _ h => h, h, fun _ _ => rfl⟩

theorem Step.trans {t1 t2 : Table} (h1 : Step g x t t1) (h2 : Step g x t1 t2) : Step g x t t2 :=
  ⟨h2.size.trans h1.size, fun y => (h2.hasPts y).trans (h1.hasPts y),
   fun y hy => h2.mono y (h1.mono y hy), h2.inv, fun y hy => (h2.other y hy).trans (h1.other y hy)⟩

theorem Step.lift {o : Nat} (h : Step g o t t')
    (htr : ∀ a b c, g.inside a b = true → g.inside b c = true → g.inside a c = true)
    (hin : g.inside x o = true) : Step g x t t' :=
  ⟨h.size, h.hasPts, h.mono, h.inv, fun y hy => h.other y fun ha =>
    hy (Or.inr (ha.elim (fun e => e ▸ hin) (htr x o y hin)))⟩

theorem Step.of_frame (hI : Inv g t) (hF : Frame t t') (hG : Acyc (ow t'))
    (ho : ∀ y, ¬ Above g x y → ow t' y = ow t y) : Step g x t t' := by
  refine ⟨hF.size, hF.hasPts, fun y hy => by rw [hF.placed]; exact hy, ⟨hG, ?_, ?_⟩, ho⟩
  · intro i p hp
    rw [hF.parent] at hp
    rw [hF.hasPts]
    exact hI.par i p hp
  · intro i hp
    rw [hF.placed] at hp
    rw [hF.hasPts]
    exact hI.pp i hp

theorem Marked.step (x : Nat) (h : Marked t t') (hI : Inv g t) : Step g x t t' :=
  Step.of_frame hI h.toFrame (h.links ▸ hI.acyc) (fun y _ => congrFun h.links y)

theorem relink_step {y : Nat} {w : Option Nat} (hI : Inv g t) (hy : t[y]!.hasPts = true)
    (hA : Acyc (upd (ow t) y w)) (hxy : Above g x y) : Step g x t (relink t y w) := by
  refine Step.of_frame hI (frame_relink t y w) ?_ (fun z hz => ?_)
  · rw [ow_relink w hy]
    exact hA
  · rw [ow_relink w hy, upd_ne]
    intro e
    exact hz (e ▸ hxy)

/-- the last branch of `checkSplitOwner`: `x` takes `s` as owner; if `x` is on the owner chain of `s`, the chain is cut
    first by handing `s` the owner that `x` had -/
def adopt (t : Table) (x s : Nat) : Table :=
  relink (if !isValidOwner t x (t.size + 1) (some s) then relink t s t[x]!.owner else t) x (some s)

theorem adopt_step {s : Nat} (hI : Inv g t) (hx : t[x]!.hasPts = true) (hs : t[s]!.hasPts = true)
    (hsx : s ≠ x) (hin : g.inside x s = true) :
    Step g x t (adopt t x s) ∧ Settled g (adopt t x s) x := by
  unfold adopt
  generalize ht1 : (if !isValidOwner t x (t.size + 1) (some s) then relink t s t[x]!.owner else t) = t1
  have h1 : Step g x t t1 ∧ ¬ Reach (ow t1) s x := by
    rw [← ht1, isValidOwner_eq, Bool.not_not]
    split
    · next hv =>
      obtain ⟨hA, hn⟩ := acyc_cut hI.acyc (reach_of_finds hv) hsx
      rw [← ow_relink _ hs] at hn
      exact ⟨relink_step hI hs hA (Or.inr hin), hn⟩
    · next hv => exact ⟨Step.refl x hI, mt (finds_of_reach (ends_ow hI.acyc s)) hv⟩
  obtain ⟨h1, hn⟩ := h1
  have hx1 : t1[x]!.hasPts = true := (h1.hasPts x).trans hx
  have h2 := h1.trans (relink_step (w := some s) h1.inv hx1
    (acyc_upd h1.inv.acyc (fun z hz => by cases hz; exact hn)) (Or.inl rfl))
  refine ⟨h2, fun o ho => ?_⟩
  rw [ow_relink _ hx1, upd_same] at ho
  cases ho
  exact ⟨(h2.hasPts s).trans hs, hin⟩

/-- `checkSplitOwner g x` only sets marks, until it gives up or lets `x` adopt a record with points
    that contains it -/
inductive Found (g : Geo) (x : Nat) (t : Table) : Table × Bool → Prop
  | no {t1 : Table} : Marked t t1 → Found g x t (t1, false)
  | yes {t1 : Table} {s : Nat} : Marked t t1 → t1[s]!.hasPts = true → s ≠ x → g.inside x s = true →
      Found g x t (adopt t1 x s, true)

/-- the shape `let (t, found) := …; if found then (t, true) else …` that `checkSplitOwner` has twice: a sub-search whose
    success ends the search -/
theorem Found.bind {t1 : Table} {found : Bool} {r : Table × Bool} (h : Found g x t (t1, found))
    (hk : Marked t t1 → Found g x t r) : Found g x t (if found = true then (t1, true) else r) := by
  cases found with
  | true => exact h
  | false =>
    cases h with
    | no hm => exact hk hm

theorem checkSplitOwner_found {t0 : Table} (f : Nat) (l : List Nat) (hm : Marked t0 t) :
    Found g x t0 (checkSplitOwner g x f t l) := by
  induction f generalizing t l with
  | zero => simp only [checkSplitOwner]; exact .no hm
  | succ f ih =>
    cases l with
    | nil => simp only [checkSplitOwner]; exact .no hm
    | cons i rest =>
      rw [checkSplitOwner]
      -- the search below `i` returns `(t1, found1)`: `split` only takes `let (t, found) := …` apart
      split
      rename_i _ t1 found1 heq1
      refine Found.bind ?_ (fun hm1 => ?_)
      · rw [← heq1]
        split
        · exact ih _ (hm.trans (marked_mark t i _))
        · exact .no hm
      split
      · exact ih rest hm1
      · next s hs =>
        -- `split` on this `if` is very slow to check (its else-branch is large), hence `by_cases`
        by_cases hc : s = x ∨ t1[s]!.mark = some x
        · rw [if_pos hc]; exact ih rest hm1
        · rw [if_neg hc]
          have hm2 := hm1.trans (marked_mark t1 s (some x))
          generalize t1.modify s (fun r => { r with mark := some x }) = t2 at hm2 ⊢
          dsimp only
          -- the search below `s` returns `(t3, found3)`
          generalize hr3 : (if (t2[s]!.splits.getD []).length > 0 then
            checkSplitOwner g x f t2 (t2[s]!.splits.getD []) else (t2, false)) = r3
          obtain ⟨t3, found3⟩ := r3
          refine Found.bind ?_ (fun hm3 => ?_)
          · rw [← hr3]
            split
            · exact ih _ hm2
            · exact .no hm2
          split
          · exact ih rest hm3
          · next hgeo =>
            have hin : g.bcontains s x = true ∧ g.inside x s = true := by simpa using hgeo
            rw [hm.size, ← hm3.size]
            refine .yes hm3 ?_ (fun e => hc (Or.inl e)) hin.2
            rw [hm3.hasPts, ← hm1.hasPts]
            exact realOutRec_some hs

theorem ownerLoop_spec {f : Nat} (hx : t[x]!.hasPts = true) (hI : Inv g t) (he : EndsIn (ow t) f (some x)) :
    Step g x t (ownerLoop g x f t) ∧ Settled g (ownerLoop g x f t) x := by
  induction f generalizing t with
  | zero => exact he.elim
  | succ f ih =>
    rw [ownerLoop]
    split
    · next hnone =>
      refine ⟨Step.refl x hI, fun o ho => ?_⟩
      rw [show ow t x = none from hnone] at ho
      cases ho
    · next o ho =>
      -- the search below `o` returns `(t1, found1)`
      split
      rename_i _ t1 found1 heq1
      have h1 : Found g x t (t1, found1) := by
        rw [← heq1]
        split
        · exact checkSplitOwner_found _ _ (.refl t)
        · exact .no (.refl t)
      clear heq1
      cases h1 with
      | yes hm hs hsx hin =>
        have h1 := hm.step x hI
        obtain ⟨h2, hset⟩ := adopt_step h1.inv ((hm.hasPts x).trans hx) hs hsx hin
        exact ⟨h1.trans h2, hset⟩
      | no hm =>
        have h1 := hm.step x hI
        have ho1 : ow t1 x = some o := (congrFun hm.links x).trans ho
        rw [← hm.links] at he
        rw [if_neg Bool.false_ne_true]
        split
        · next hacc =>
          refine ⟨h1, fun o' ho' => ?_⟩
          rw [ho1] at ho'
          cases ho'
          exact hacc
        · have hx1 := (hm.hasPts x).trans hx
          have h2 := relink_step (w := t1[o]!.owner) h1.inv hx1
            (acyc_upd h1.inv.acyc fun z hz h => h1.inv.acyc x o ho1 (Reach.step hz h)) (Or.inl rfl)
          have he2 := endsIn_skip h1.inv.acyc ho1 he
          rw [← ow_relink _ hx1] at he2
          obtain ⟨h3, hset⟩ := ih ((h2.hasPts x).trans hx1) h2.inv he2
          exact ⟨(h1.trans h2).trans h3, hset⟩

def place (t : Table) (x : Nat) (p : Option Nat) : Table :=
  t.modify x (fun r => { r with placed := true, parent := p })

theorem place_step {p : Option Nat} (hI : Inv g t) (hpts : t[x]!.hasPts = true)
    (hp : ∀ o, p = some o → g.inside x o = true ∧ t[o]!.hasPts = true) :
    Step g x t (place t x p) ∧ (place t x p)[x]!.placed = true := by
  have hget := fun y => Array.getElem!_modify t x y (fun r => { r with placed := true, parent := p })
  have hsz : (place t x p).size = t.size := by simp [place]
  rw [← place] at hget
  generalize place t x p = t' at hget hsz ⊢
  have hpts' (y : Nat) : t'[y]!.hasPts = t[y]!.hasPts := by
    rw [hget]; split <;> rfl
  have hmono (y : Nat) (hy : t[y]!.placed = true) : t'[y]!.placed = true := by
    rw [hget]; split
    · rfl
    · exact hy
  have how : ow t' = ow t := by
    funext y; unfold ow; rw [hget]; split <;> rfl
  refine ⟨⟨hsz, hpts', hmono, ⟨how ▸ hI.acyc, ?_, ?_⟩, fun y _ => congrFun how y⟩, ?_⟩
  · intro i q hq
    rw [hpts']
    rw [hget] at hq
    split at hq
    · next h =>
      rw [← h.1]
      exact hp q hq
    · exact hI.par i q hq
  · intro i hi
    rw [hpts']
    rw [hget] at hi
    split at hi
    · next h => rw [← h.1]; exact hpts
    · exact hI.pp i hi
  · rw [hget, if_pos ⟨rfl, hasPts_lt hpts⟩]

theorem recursiveCheckOwners_spec (hirr : ∀ a, g.inside a a = false)
    (htr : ∀ a b c, g.inside a b = true → g.inside b c = true → g.inside a c = true) {f : Nat}
    (hI : Inv g t) (hpts : t[x]!.hasPts = true) (hf : cnt t.size (fun y => g.inside x y = true) < f) :
    Step g x t (recursiveCheckOwners g f t x) ∧ (recursiveCheckOwners g f t x)[x]!.placed = true := by
  induction f generalizing t x with
  | zero => omega
  | succ f ih =>
    rw [recursiveCheckOwners]
    split
    · next hpl =>
      exact ⟨Step.refl x hI, hpl⟩
    · obtain ⟨h1, hset⟩ := ownerLoop_spec hpts hI (ends_ow hI.acyc x)
      generalize ownerLoop g x (t.size + 1) t = t1 at h1 hset ⊢
      have hpts1 : t1[x]!.hasPts = true := (h1.hasPts x).trans hpts
      dsimp only
      split
      · next o ho =>
        obtain ⟨hopts, hin⟩ := hset o ho
        have hoo : g.inside o o ≠ true := by rw [hirr]; exact Bool.false_ne_true
        generalize ht2 : (if (!t1[o]!.placed) = true then recursiveCheckOwners g f t1 o else t1) = t2
        -- the owner is placed first; fewer records contain it than contain `x`
        have h2 : Step g o t1 t2 := by
          rw [← ht2]
          split
          · apply (ih h1.inv hopts _).1
            have := cnt_lt (n := t1.size) (fun y hy => htr x o y hin hy) (hasPts_lt hopts) hin hoo
            rw [h1.size] at this ⊢
            omega
          · exact Step.refl o h1.inv
        -- `x` does not contain `o`, so its link to `o` has survived
        have hx2 : t2[x]!.owner = some o := by
          refine (h2.other x fun ha => hoo ?_).trans ho
          exact ha.elim (fun e => e ▸ hin) (htr o x o · hin)
        rw [hx2]
        obtain ⟨h3, hplaced⟩ := place_step (p := some o) h2.inv ((h2.hasPts x).trans hpts1)
          (by intro o' e; cases e; exact ⟨hin, (h2.hasPts o).trans hopts⟩)
        exact ⟨(h1.trans (h2.lift htr hin)).trans h3, hplaced⟩
      · obtain ⟨h3, hplaced⟩ := place_step (p := none) h1.inv hpts1 (by intro o e; cases e)
        exact ⟨h1.trans h3, hplaced⟩

end

theorem inv_of_fresh (g : Geo) {t : Table}
    (h1 : ∀ i, i < t.size → t[i]!.placed = false ∧ t[i]!.mark = none ∧ t[i]!.parent = none)
    (h2 : ∀ i o, i < t.size → t[i]!.owner = some o → o < i) : Inv g t := by
  refine ⟨acyc_of_lt (fun a b hab => h2 a b (ow_lt hab) hab), fun i p hp => ?_, fun i hp => ?_⟩
  · by_cases hi : i < t.size
    · rw [(h1 i hi).2.2] at hp; cases hp
    · rw [get_oob (Nat.le_of_not_lt hi)] at hp; cases hp
  · by_cases hi : i < t.size
    · rw [(h1 i hi).1] at hp; cases hp
    · rw [get_oob (Nat.le_of_not_lt hi)] at hp; cases hp

theorem buildTree_spec {g : Geo} {t : Table} (hI : Inv g t) (hirr : ∀ a, g.inside a a = false)
    (htr : ∀ a b c, g.inside a b = true → g.inside b c = true → g.inside a c = true) :
    (∀ y : Nat, (buildTree g t)[y]!.hasPts = t[y]!.hasPts) ∧ Inv g (buildTree g t) ∧
    (∀ i, i < t.size → t[i]!.hasPts = true → (buildTree g t)[i]!.placed = true) := by
  unfold buildTree
  -- after `n` rounds the records below `n` have been dealt with
  generalize t.size = n
  induction n with
  | zero => exact ⟨fun _ => rfl, hI, fun i hi => absurd hi (Nat.not_lt_zero i)⟩
  | succ n ih =>
    obtain ⟨hp1, hI1, hd1⟩ := ih
    rw [List.range_succ, List.foldl_append]
    generalize (List.range n).foldl _ t = t1 at hp1 hI1 hd1 ⊢
    simp only [List.foldl_cons, List.foldl_nil]
    generalize ht2 : (if t1[n]!.hasPts = true then recursiveCheckOwners g (t1.size + 1) t1 n else t1) = t2
    have h : Step g n t1 t2 ∧ (t1[n]!.hasPts = true → t2[n]!.placed = true) := by
      rw [← ht2]
      split
      · next hp =>
        obtain ⟨h, hdone⟩ := recursiveCheckOwners_spec hirr htr hI1 hp (Nat.lt_succ_of_le (cnt_le _ _))
        exact ⟨h, fun _ => hdone⟩
      · next hp =>
        exact ⟨Step.refl n hI1, fun h => absurd h hp⟩
    refine ⟨fun y => (h.1.hasPts y).trans (hp1 y), h.1.inv, fun i hi hip => ?_⟩
    by_cases hin : i = n
    · rw [hin, ← hp1] at hip
      rw [hin]
      exact h.2 hip
    · exact h.1.mono i (hd1 i (by omega) hip)

theorem buildTree_parent_contains (g : Geo) (t : Table)
    (h1 : ∀ i, i < t.size → t[i]!.placed = false ∧ t[i]!.mark = none ∧ t[i]!.parent = none)
    (h2 : ∀ i o, i < t.size → t[i]!.owner = some o → o < i)
    (hirr : ∀ a, g.inside a a = false)
    (htr : ∀ a b c, g.inside a b = true → g.inside b c = true → g.inside a c = true)
    (i p : Nat) (hp : (buildTree g t)[i]!.parent = some p) :
    g.inside i p = true ∧ (buildTree g t)[p]!.placed = true ∧ t[p]!.hasPts = true := by
  obtain ⟨hpts, hI, hplaced⟩ := buildTree_spec (inv_of_fresh g h1 h2) hirr htr
  obtain ⟨hin, hp'⟩ := hI.par i p hp
  rw [hpts] at hp'
  exact ⟨hin, hplaced p (hasPts_lt hp') hp', hp'⟩

theorem buildTree_places_exactly (g : Geo) (t : Table)
    (h1 : ∀ i, i < t.size → t[i]!.placed = false ∧ t[i]!.mark = none ∧ t[i]!.parent = none)
    (h2 : ∀ i o, i < t.size → t[i]!.owner = some o → o < i)
    (hirr : ∀ a, g.inside a a = false)
    (htr : ∀ a b c, g.inside a b = true → g.inside b c = true → g.inside a c = true)
    (i : Nat) (hi : i < t.size) :
    (buildTree g t)[i]!.placed = t[i]!.hasPts := by
  obtain ⟨hpts, hI, hplaced⟩ := buildTree_spec (inv_of_fresh g h1 h2) hirr htr
  exact Bool.eq_iff_iff.2 ⟨fun hq => hpts i ▸ hI.pp i hq, hplaced i hi⟩

end Proofs.Tree
