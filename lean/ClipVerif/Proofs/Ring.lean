import ClipVerif.Model.Ring
import ClipVerif.Proofs.Basic
/-
Proofs about `Model.Ring` (assembly of output rings): the coupling between hot edges and output records
is an invariant of every valid operation sequence, valid operations never fault, and a ring grows like a
double-ended queue whose two tips are the front and the back edge.

The invariant is stated record by record (`Coupled`, a property of the edge table and of the record's value),
with the front and the back edge of a record treated alike (`side`).  Each model function is unfolded once, in
a lemma that says what it does to `recOf`, to the records and to the lengths; an operation is then followed by
naming the at most two records it touches (`Coupled.of_cold`, `Coupled.retip`, `Coupled.flip`) and framing all
others (`Coupled.frame`); an operation that overwrites one record and no edge is `inv_setRec`.
-/
namespace Proofs.Ring
open Model.Ring Gen

/-- coupling of hot edges and output records: a hot edge's record exists, has points and names the edge
as its front or back edge; a record's front / back edge is a hot edge of that record; front ≠ back -/
def invB (s : St) : Bool :=
  ((List.range s.edgeRec.length).all fun e =>
    match s.recOf e with
    | none => true
    | some r => decide (r < s.recs.length) && ((s.getRec r).front == some e || (s.getRec r).back == some e) &&
        !(s.getRec r).pts.isEmpty) &&
  ((List.range s.recs.length).all fun r =>
    (match (s.getRec r).front with
     | none => true
     | some e => decide (e < s.edgeRec.length) && s.recOf e == some r && (s.getRec r).back != some e) &&
    (match (s.getRec r).back with
     | none => true
     | some e => decide (e < s.edgeRec.length) && s.recOf e == some r))

/-- what the engine guarantees when it calls the four functions: local minima are started on two different
cold edges, points are added to hot edges, local maxima close two different hot edges, edges exist -/
def validB (s : St) : Op → Bool
  | .min e1 e2 _ _ => decide (e1 < s.edgeRec.length) && decide (e2 < s.edgeRec.length) && e1 != e2 &&
      (s.recOf e1).isNone && (s.recOf e2).isNone
  | .pt e _ => decide (e < s.edgeRec.length) && (s.recOf e).isSome
  | .max e1 e2 _ => decide (e1 < s.edgeRec.length) && decide (e2 < s.edgeRec.length) && e1 != e2 &&
      (s.recOf e1).isSome && (s.recOf e2).isSome
  | .swap e1 e2 => decide (e1 < s.edgeRec.length) && decide (e2 < s.edgeRec.length) && e1 != e2

@[simp] theorem recs_length_setRec (s : St) (r : Nat) (x : Rec) : (s.setRec r x).recs.length = s.recs.length := by
  simp [St.setRec]
@[simp] theorem edgeRec_setRec (s : St) (r : Nat) (x : Rec) : (s.setRec r x).edgeRec = s.edgeRec := rfl
@[simp] theorem succeeded_setRec (s : St) (r : Nat) (x : Rec) : (s.setRec r x).succeeded = s.succeeded := rfl
@[simp] theorem recs_setEdge (s : St) (e : Nat) (v : Option Nat) : (s.setEdge e v).recs = s.recs := rfl
theorem edgeRec_length_setEdge (s : St) (e : Nat) (v : Option Nat) :
    (s.setEdge e v).edgeRec.length = s.edgeRec.length := by simp [St.setEdge]
@[simp] theorem recOf_setRec (s : St) (r : Nat) (x : Rec) (e : Nat) : (s.setRec r x).recOf e = s.recOf e := rfl
@[simp] theorem getRec_setEdge (s : St) (e : Nat) (v : Option Nat) (r : Nat) : (s.setEdge e v).getRec r = s.getRec r := rfl

theorem getRec_of_ge {s : St} {r : Nat} (h : s.recs.length ≤ r) : s.getRec r = {} := by
  simp [St.getRec, List.getD_eq_getElem?_getD, List.getElem?_eq_none h]

theorem recOf_of_ge {s : St} {e : Nat} (h : s.edgeRec.length ≤ e) : s.recOf e = none := by
  simp [St.recOf, List.getD_eq_getElem?_getD, List.getElem?_eq_none h]

theorem recOf_lt {s : St} {e r : Nat} (h : s.recOf e = some r) : e < s.edgeRec.length :=
  Nat.lt_of_not_le fun h' => by rw [recOf_of_ge h'] at h; cases h

theorem getRec_setRec (s : St) (r : Nat) (x : Rec) (r' : Nat) :
    (s.setRec r x).getRec r' = if r = r' ∧ r < s.recs.length then x else s.getRec r' :=
  List.getD_set s.recs r r' x {}

theorem recOf_setEdge (s : St) (e : Nat) (v : Option Nat) (e' : Nat) :
    (s.setEdge e v).recOf e' = if e = e' ∧ e < s.edgeRec.length then v else s.recOf e' :=
  List.getD_set s.edgeRec e e' v none

theorem recOf_setEdge_none (s : St) (e e' : Nat) :
    (s.setEdge e none).recOf e' = if e = e' then none else s.recOf e' := by
  rw [recOf_setEdge]
  by_cases h : e = e' ∧ e < s.edgeRec.length
  · rw [if_pos h, if_pos h.1]
  · rw [if_neg h]
    split
    · next he => rw [← he, recOf_of_ge (Nat.le_of_not_lt fun hlt => h ⟨he, hlt⟩)]
    · rfl

/-- what `setOwner` and the other owner assignments do to a state: `owner` fields may change, nothing that `Inv`
reads does -/
def Same (s s' : St) : Prop :=
  s'.edgeRec = s.edgeRec ∧ s'.recs.length = s.recs.length ∧
  ∀ r, (s'.getRec r).pts = (s.getRec r).pts ∧ (s'.getRec r).front = (s.getRec r).front ∧
    (s'.getRec r).back = (s.getRec r).back

theorem Same.refl (s : St) : Same s s := ⟨rfl, rfl, fun _ => ⟨rfl, rfl, rfl⟩⟩

theorem Same.trans {a b c : St} (h1 : Same a b) (h2 : Same b c) : Same a c :=
  ⟨h2.1.trans h1.1, h2.2.1.trans h1.2.1, fun r =>
    ⟨(h2.2.2 r).1.trans (h1.2.2 r).1, (h2.2.2 r).2.1.trans (h1.2.2 r).2.1, (h2.2.2 r).2.2.trans (h1.2.2 r).2.2⟩⟩

theorem Same.setOwnerField {s : St} {r : Nat} {o : Option Nat} :
    Same s (s.setRec r { s.getRec r with owner := o }) := by
  refine ⟨rfl, by simp, fun r' => ?_⟩
  rw [getRec_setRec]
  split
  · next h => obtain ⟨rfl, _⟩ := h; exact ⟨rfl, rfl, rfl⟩
  · exact ⟨rfl, rfl, rfl⟩

theorem Same.skipEmptyOwners (fuel : Nat) (s : St) (r : Nat) : Same s (skipEmptyOwners fuel s r) := by
  induction fuel generalizing s with
  | zero => exact Same.refl s
  | succ n ih =>
    unfold Model.Ring.skipEmptyOwners
    split
    · split
      · exact Same.setOwnerField.trans (ih _)
      · exact Same.refl s
    · exact Same.refl s

theorem Same.setOwner (s : St) (a b : Nat) : Same s (setOwner s a b) := by
  unfold Model.Ring.setOwner
  have h1 := Same.skipEmptyOwners (s.recs.length + 1) s b
  generalize skipEmptyOwners (s.recs.length + 1) s b = s1 at h1 ⊢
  refine Same.trans h1 ?_
  refine Same.trans ?_ Same.setOwnerField
  split
  · exact Same.setOwnerField
  · exact Same.refl _

theorem Same.recOf {s s' : St} (h : Same s s') (e : Nat) : s'.recOf e = s.recOf e := by
  simp only [St.recOf, h.1]

theorem edgeRec_setOwner (s : St) (a b : Nat) : (setOwner s a b).edgeRec = s.edgeRec := (Same.setOwner s a b).1
theorem recs_length_setOwner (s : St) (a b : Nat) : (setOwner s a b).recs.length = s.recs.length :=
  (Same.setOwner s a b).2.1
theorem pts_setOwner (s : St) (a b r : Nat) : ((setOwner s a b).getRec r).pts = (s.getRec r).pts :=
  ((Same.setOwner s a b).2.2 r).1
theorem recOf_setOwner (s : St) (a b e : Nat) : (setOwner s a b).recOf e = s.recOf e :=
  (Same.setOwner s a b).recOf e

def side (rc : Rec) (b : Bool) : Option Nat := if b then rc.front else rc.back

theorem side_true (rc : Rec) : side rc true = rc.front := rfl
theorem side_false (rc : Rec) : side rc false = rc.back := rfl

/-- the record `rc` with index `r` and the edges that name `r` in the edge table `rec` agree: these edges are
its front or back edge and it has points; its front and back edge name it and differ -/
structure Coupled (rec : Nat → Option Nat) (r : Nat) (rc : Rec) : Prop where
  side_of : ∀ e, rec e = some r → ∃ b, side rc b = some e
  pts_ne : ∀ e, rec e = some r → rc.pts ≠ []
  tip : ∀ b e, side rc b = some e → rec e = some r ∧ side rc (!b) ≠ some e

def Inv (s : St) : Prop := ∀ r, Coupled s.recOf r (s.getRec r)

theorem Inv.lt {s : St} {r e : Nat} (hi : Inv s) (he : s.recOf e = some r) : r < s.recs.length :=
  Nat.lt_of_not_le fun hge => (hi r).pts_ne e he (by rw [getRec_of_ge hge])

theorem inv_setRec {s : St} {r : Nat} {x : Rec} (hi : Inv s) (h : Coupled s.recOf r x) : Inv (s.setRec r x) := by
  intro r'
  rw [getRec_setRec]
  split
  · next hc => exact hc.1 ▸ h
  · exact hi r'

theorem invB_iff (s : St) : invB s = true ↔ Inv s := by
  simp only [invB, Bool.and_eq_true, List.all_eq_true, List.mem_range]
  constructor
  · rintro ⟨hA, hB⟩ r
    have hA' : ∀ e, s.recOf e = some r → _ := fun e he => by simpa [he] using hA e (recOf_lt he)
    refine ⟨fun e he => Bool.exists_bool.mpr (hA' e he).1.2.symm, fun e he => (hA' e he).2, fun c e hc => ?_⟩
    · have hlt : r < s.recs.length := Nat.lt_of_not_le fun hge => by
        rw [getRec_of_ge hge] at hc
        cases c <;> cases hc
      obtain ⟨hF, hK⟩ := hB r hlt
      cases c
      · rw [show (s.getRec r).back = some e from hc] at hK
        simp at hK
        refine ⟨hK.2, fun hf => ?_⟩
        rw [show (s.getRec r).front = some e from hf] at hF
        simp [show (s.getRec r).back = some e from hc] at hF
      · rw [show (s.getRec r).front = some e from hc] at hF
        simp at hF
        exact ⟨hF.1.2, hF.2⟩
  · intro hi
    refine ⟨fun e he => ?_, fun r hr => ⟨?_, ?_⟩⟩
    · split
      · rfl
      · next r her =>
        simpa using ⟨⟨hi.lt her, (Bool.exists_bool.mp ((hi r).side_of e her)).symm⟩, (hi r).pts_ne e her⟩
    · split
      · rfl
      · next e hf =>
        obtain ⟨hr', hb⟩ := (hi r).tip true e hf
        simpa using ⟨⟨recOf_lt hr', hr'⟩, hb⟩
    · split
      · rfl
      · next e hb =>
        have hr' := ((hi r).tip false e hb).1
        simpa using ⟨recOf_lt hr', hr'⟩

theorem owner_setRec (s : St) (r : Nat) (x : Rec) (r' : Nat) :
    ((s.setRec r x).getRec r').owner = if r = r' ∧ r < s.recs.length then x.owner else (s.getRec r').owner := by
  rw [getRec_setRec, apply_ite Rec.owner]

theorem owner_setRec_same (s : St) (r : Nat) (x : Rec) (r' : Nat) (h : x.owner = (s.getRec r).owner) :
    ((s.setRec r x).getRec r').owner = (s.getRec r').owner := by
  rw [owner_setRec]
  split
  · next hc => rw [h, hc.1]
  · rfl

theorem Same.side {s s' : St} (h : Same s s') (r : Nat) (c : Bool) : side (s'.getRec r) c = side (s.getRec r) c := by
  cases c
  · exact (h.2.2 r).2.2
  · exact (h.2.2 r).2.1

theorem side_setOwner (s : St) (a b r : Nat) (c : Bool) :
    side ((setOwner s a b).getRec r) c = side (s.getRec r) c := (Same.setOwner s a b).side r c

attribute [local simp] edgeRec_length_setEdge edgeRec_setOwner recs_length_setOwner pts_setOwner recOf_setOwner
  side_true side_false side_setOwner

section
variable {rec rec' : Nat → Option Nat} {r : Nat} {rc rc' : Rec}

theorem Coupled.frame (h : Coupled rec r rc) (he : ∀ e, rec' e = some r ↔ rec e = some r)
    (hs : ∀ b, side rc' b = side rc b) (hp : rc.pts ≠ [] → rc'.pts ≠ []) : Coupled rec' r rc' := by
  refine ⟨fun e h' => ?_, fun e h' => hp (h.pts_ne e ((he e).mp h')), fun b e h' => ?_⟩
  · simp only [hs]
    exact h.side_of e ((he e).mp h')
  · rw [hs] at h'
    rw [hs, he]
    exact h.tip b e h'

theorem Coupled.of_cold (he : ∀ e, rec e ≠ some r) (hs : ∀ b, side rc b = none) : Coupled rec r rc := by
  refine ⟨fun e h => absurd h (he e), fun e h => absurd h (he e), fun b e h => ?_⟩
  rw [hs] at h
  cases h

theorem Coupled.three {a b c : Nat} (h : Coupled rec r rc) (ha : rec a = some r) (hb : rec b = some r)
    (hc : rec c = some r) : a = b ∨ a = c ∨ b = c := by
  obtain ⟨ca, ha⟩ := h.side_of a ha
  obtain ⟨cb, hb⟩ := h.side_of b hb
  obtain ⟨cc, hc⟩ := h.side_of c hc
  have : ca = cb ∨ ca = cc ∨ cb = cc := by cases ca <;> cases cb <;> cases cc <;> simp
  rcases this with rfl | rfl | rfl
  · exact Or.inl (Option.some.inj (ha.symm.trans hb))
  · exact Or.inr (Or.inl (Option.some.inj (ha.symm.trans hc)))
  · exact Or.inr (Or.inr (Option.some.inj (hb.symm.trans hc)))

/-- side `c` of record `r` gives up its edge `e` and takes `o` instead, an edge that did not name `r`; no other
edge starts or stops naming `r` -/
theorem Coupled.retip {e : Nat} {c : Bool} {o : Option Nat} (h : Coupled rec r rc) (hc : side rc c = some e)
    (hp : rc'.pts ≠ []) (hs : ∀ c', side rc' c' = if c' = c then o else side rc c')
    (hin : ∀ x, o = some x → rec' x = some r ∧ rec x ≠ some r) (hout : rec' e ≠ some r)
    (hoth : ∀ x, x ≠ e → o ≠ some x → (rec' x = some r ↔ rec x = some r)) : Coupled rec' r rc' := by
  refine ⟨fun x hx => ?_, fun _ _ => hp, fun c' x hx => ?_⟩
  · by_cases hxo : o = some x
    · exact ⟨c, by rw [hs, if_pos rfl, hxo]⟩
    · have hxe : x ≠ e := fun h => hout (h ▸ hx)
      obtain ⟨c', hc'⟩ := h.side_of x ((hoth x hxe hxo).mp hx)
      refine ⟨c', ?_⟩
      rw [hs, if_neg, hc']
      rintro rfl
      exact hxe (Option.some.inj (hc'.symm.trans hc))
  · rw [hs] at hx ⊢
    split at hx
    · next hcc =>
      refine ⟨(hin x hx).1, ?_⟩
      rw [if_neg (by simp [hcc])]
      exact fun hx' => (hin x hx).2 (h.tip _ x hx').1
    · next hcc =>
      obtain ⟨hr, hx'⟩ := h.tip c' x hx
      rw [Bool.eq_not_of_ne hcc, Bool.not_not] at hx' ⊢
      have hxo : o ≠ some x := fun hxo => (hin x hxo).2 hr
      refine ⟨(hoth x (fun hxe => hx' (hxe ▸ hc)) hxo).mpr hr, ?_⟩
      rw [if_pos rfl]
      exact hxo

theorem Coupled.flip (h : Coupled rec r rc) (hs : ∀ c, side rc' c = side rc (!c)) (hp : rc'.pts = rc.pts) :
    Coupled rec r rc' := by
  refine ⟨fun e he => ?_, fun e he => hp ▸ h.pts_ne e he, fun c e hc => ?_⟩
  · obtain ⟨c, hc⟩ := h.side_of e he
    exact ⟨!c, by rw [hs, Bool.not_not]; exact hc⟩
  · rw [hs] at hc ⊢
    exact h.tip (!c) e hc

end

theorem inv_of_same {s s' : St} (h : Same s s') (hi : Inv s) : Inv s' := fun r =>
  (hi r).frame (fun e => by rw [h.recOf]) (h.side r) (by rw [(h.2.2 r).1]; exact id)

theorem recOf_uncouple {s : St} {e r : Nat} (hr : s.recOf e = some r) (x : Nat) :
    (uncouple s e).recOf x = if ∃ b, side (s.getRec r) b = some x then none else s.recOf x := by
  unfold uncouple
  simp only [hr, recOf_setRec, Bool.exists_bool, side_true, side_false]
  cases (s.getRec r).front <;> cases (s.getRec r).back <;> simp [recOf_setEdge_none]
  split <;> simp [*]

theorem getRec_uncouple {s : St} {e r : Nat} (hr : s.recOf e = some r) (hlt : r < s.recs.length) (r' : Nat) :
    (uncouple s e).getRec r' =
      if r = r' then { s.getRec r with front := none, back := none } else s.getRec r' := by
  unfold uncouple
  simp only [hr]
  cases (s.getRec r).front <;> cases (s.getRec r).back <;> simp [getRec_setRec, hlt]

theorem length_uncouple (s : St) (e : Nat) : (uncouple s e).recs.length = s.recs.length ∧
    (uncouple s e).edgeRec.length = s.edgeRec.length := by
  unfold uncouple
  split
  · exact ⟨rfl, rfl⟩
  · simp only [recs_length_setRec, edgeRec_setRec]
    split <;> split <;> simp

theorem inv_uncouple {s : St} (e : Nat) (hi : Inv s) : Inv (uncouple s e) := by
  cases hr : s.recOf e with
  | none => unfold uncouple; rw [hr]; exact hi
  | some r =>
    intro r'
    rw [getRec_uncouple hr (hi.lt hr)]
    split
    · next hrr =>
      subst hrr
      refine Coupled.of_cold (fun x h => ?_) (fun b => by cases b <;> rfl)
      rw [recOf_uncouple hr] at h
      split at h
      · cases h
      · next hx => exact hx ((hi r).side_of x h)
    · next hrr =>
      refine (hi r').frame (fun x => ?_) (fun b => rfl) id
      rw [recOf_uncouple hr]
      split
      · next hx =>
        obtain ⟨b, hb⟩ := hx
        rw [((hi r).tip b x hb).1]
        simp [hrr]
      · rfl

/-- what `joinOutrecPaths s e1 e2 = some s'` does when `e1` sits on side `b` of its record `r1` and `e2` names `r2`:
the edge on side `b` of `r2`, if there is one, moves to `r1`, both records' polylines are spliced into `r1` and
`r2` is emptied; the owners are those after `setOwner r2 r1` -/
structure Joined (s s' : St) (e1 e2 r1 r2 : Nat) (b : Bool) : Prop where
  recs_length : s'.recs.length = s.recs.length
  edgeRec_length : s'.edgeRec.length = s.edgeRec.length
  recOf : ∀ x, s'.recOf x = if e2 = x then none else if e1 = x then none
    else if side (s.getRec r2) b = some x ∧ x < s.edgeRec.length then some r1 else s.recOf x
  side_r2 : ∀ c, side (s'.getRec r2) c = none
  side_r1 : ∀ c, side (s'.getRec r1) c = if c = b then side (s.getRec r2) b else side (s.getRec r1) c
  side_other : ∀ r, r2 ≠ r → r1 ≠ r → ∀ c, side (s'.getRec r) c = side (s.getRec r) c
  pts_r2 : (s'.getRec r2).pts = []
  pts_r1_ne : (s'.getRec r1).pts ≠ []
  path_r1 : path (s'.getRec r1).pts =
    if b then path (s.getRec r2).pts ++ path (s.getRec r1).pts else path (s.getRec r1).pts ++ path (s.getRec r2).pts
  pts_other : ∀ r, r2 ≠ r → r1 ≠ r → (s'.getRec r).pts = (s.getRec r).pts
  owner : ∃ s0, s0.recs.length = s.recs.length ∧ (∀ r, (s0.getRec r).owner = (s.getRec r).owner) ∧
    ∀ r, (s'.getRec r).owner = ((setOwner s0 r2 r1).getRec r).owner

theorem joinOutrecPaths_spec {s s' : St} {e1 e2 r1 r2 : Nat} {b : Bool} (h1 : s.recOf e1 = some r1) (h2 : s.recOf e2 = some r2)
    (hne : r1 ≠ r2) (hb : ((s.getRec r1).front == some e1) = b) (h : joinOutrecPaths s e1 e2 = some s') :
    Joined s s' e1 e2 r1 r2 b := by
  unfold joinOutrecPaths at h
  simp only [h1, h2] at h
  split at h
  · next f1 t1 f2 t2 hq1 hq2 =>
    cases h
    have hne' := Ne.symm hne
    have hr1 : r1 < s.recs.length := Nat.lt_of_not_le fun hge => by rw [getRec_of_ge hge] at hq1; cases hq1
    have hr2 : r2 < s.recs.length := Nat.lt_of_not_le fun hge => by rw [getRec_of_ge hge] at hq2; cases hq2
    have he1 := recOf_lt h1
    have he2 := recOf_lt h2
    subst hb
    split <;> split
    all_goals
      -- four cases: is `e1` the front edge of `r1`, has the moving side of `r2` an edge.  In each the model returns
      -- an explicit chain of `setRec` / `setEdge` around one `setOwner`, and every field is read off it by the
      -- read-after-write lemmas; `owner` takes for `s0` the state just before `setOwner` (fixed by the `rfl`)
      exact {
        recs_length := by simp
        edgeRec_length := by simp
        recOf := fun x => by
          have hc : ∀ o, (o = x ∧ o < s.edgeRec.length) ↔ (o = x ∧ x < s.edgeRec.length) :=
            fun o => and_congr_right fun h => by rw [h]
          simp [recOf_setEdge, *] <;> simp [hc]
        side_r2 := fun c => by simp [getRec_setRec, *] <;> cases c <;> rfl
        side_r1 := fun c => by simp [getRec_setRec, *] <;> cases c <;> simp [*]
        side_other := fun r h2r h1r c => by simp [getRec_setRec, *]
        pts_r2 := by simp [getRec_setRec, *]
        pts_r1_ne := by simp [getRec_setRec, *]
        path_r1 := by simp [getRec_setRec, path, *]
        pts_other := fun r h2r h1r => by simp [getRec_setRec, *]
        owner := ⟨_, by simp, fun r => by simp [owner_setRec_same], fun r => rfl⟩ }
  · cases h

theorem joinOutrecPaths_total {s : St} {e1 e2 r1 r2 : Nat} (h1 : s.recOf e1 = some r1) (h2 : s.recOf e2 = some r2)
    (hp1 : (s.getRec r1).pts ≠ []) (hp2 : (s.getRec r2).pts ≠ []) : ∃ s', joinOutrecPaths s e1 e2 = some s' := by
  unfold joinOutrecPaths
  simp only [h1, h2]
  cases hq1 : (s.getRec r1).pts with
  | nil => exact absurd hq1 hp1
  | cons f1 t1 =>
  cases hq2 : (s.getRec r2).pts with
  | nil => exact absurd hq2 hp2
  | cons f2 t2 => exact ⟨_, rfl⟩

theorem Coupled.side_isFront {rec : Nat → Option Nat} {r e : Nat} {rc : Rec} (h : Coupled rec r rc)
    (he : rec e = some r) : side rc (rc.front == some e) = some e := by
  obtain ⟨c, hc⟩ := h.side_of e he
  cases c
  · cases hb : rc.front == some e
    · exact hc
    · exact beq_iff_eq.mp hb
  · rw [show (rc.front == some e) = true from beq_iff_eq.mpr hc]
    exact hc

theorem inv_joinOutrecPaths {s : St} {e1 e2 r1 r2 : Nat} (hi : Inv s) (h1 : s.recOf e1 = some r1)
    (h2 : s.recOf e2 = some r2) (hne : r1 ≠ r2)
    (hf : ((s.getRec r1).front == some e1) ≠ ((s.getRec r2).front == some e2)) :
    ∃ s', joinOutrecPaths s e1 e2 = some s' ∧ Inv s' ∧ s'.edgeRec.length = s.edgeRec.length := by
  obtain ⟨s', h⟩ := joinOutrecPaths_total h1 h2 ((hi r1).pts_ne e1 h1) ((hi r2).pts_ne e2 h2)
  have ht1 := (hi r1).side_isFront h1
  have ht2 := (hi r2).side_isFront h2
  rw [Bool.eq_not_of_ne hf.symm] at ht2
  generalize hb : ((s.getRec r1).front == some e1) = b at ht1 ht2
  have hj := joinOutrecPaths_spec h1 h2 hne hb h
  refine ⟨s', h, ?_, hj.edgeRec_length⟩
  -- the edge `x` that moves from `r2` to `r1`, if there is one
  have hT x (hx : side (s.getRec r2) b = some x) : s.recOf x = some r2 ∧ x < s.edgeRec.length ∧ e2 ≠ x := by
    obtain ⟨hr, hx'⟩ := (hi r2).tip b x hx
    exact ⟨hr, recOf_lt hr, fun h => hx' (h ▸ ht2)⟩
  have hT1 : side (s.getRec r2) b ≠ some e1 := fun h => hne (Option.some.inj (h1.symm.trans (hT e1 h).1))
  intro r
  by_cases h2r : r2 = r
  · subst h2r
    refine Coupled.of_cold (fun x hx => ?_) hj.side_r2
    simp only [hj.recOf, Option.ite_none_left_eq_some] at hx
    obtain ⟨hx2, -, hx⟩ := hx
    split at hx
    · exact hne (Option.some.inj hx)
    · next hxT =>
      obtain ⟨c, hc⟩ := (hi r2).side_of x hx
      by_cases hcb : c = b
      · exact hxT ⟨hcb ▸ hc, recOf_lt hx⟩
      · rw [Bool.eq_not_of_ne hcb, ht2] at hc
        exact hx2 (Option.some.inj hc)
  by_cases h1r : r1 = r
  · subst h1r
    refine (hi r1).retip ht1 hj.pts_r1_ne hj.side_r1 (fun x hx => ?_) (by rw [hj.recOf]; split <;> simp) (fun x hx1 hxT => ?_)
    · obtain ⟨hr, hlt, hx2⟩ := hT x hx
      rw [hj.recOf, if_neg hx2, if_neg (fun h : e1 = x => hT1 (h ▸ hx)), if_pos ⟨hx, hlt⟩, hr]
      exact ⟨rfl, fun h => hne (Option.some.inj h).symm⟩
    · rw [hj.recOf]
      split
      · next h => subst h; simp [h2, hne.symm]
      · rw [if_neg (Ne.symm hx1), if_neg (fun h => hxT h.1)]
  · refine (hi r).frame (fun x => ?_) (hj.side_other r h2r h1r) (by rw [hj.pts_other r h2r h1r]; exact id)
    rw [hj.recOf]
    split
    · next h => subst h; simp [h2, h2r]
    split
    · next h => subst h; simp [h1, h1r]
    split
    · next h => simp [(hT x h.1).1, h1r, h2r]
    · rfl

theorem side_replaceSide (rc : Rec) (old new : Nat) (c : Bool) :
    side (replaceSide rc old new) c = if c = (rc.front == some old) then some new else side rc c := by
  unfold replaceSide
  split <;> cases c <;> simp_all

theorem swapOutrecs_eq {s : St} {e1 e2 : Nat} (hi : Inv s) (h1 : e1 < s.edgeRec.length) (h2 : e2 < s.edgeRec.length)
    (hd : ¬ ((s.recOf e1).isSome && s.recOf e1 == s.recOf e2) = true) :
    (∀ x, (swapOutrecs s e1 e2).recOf x =
      if e2 = x then s.recOf e1 else if e1 = x then s.recOf e2 else s.recOf x) ∧
    (∀ r, (swapOutrecs s e1 e2).getRec r =
      if s.recOf e2 = some r then replaceSide (s.getRec r) e2 e1
      else if s.recOf e1 = some r then replaceSide (s.getRec r) e1 e2 else s.getRec r) := by
  unfold swapOutrecs
  simp only []
  rw [if_neg hd]
  rcases hr1 : s.recOf e1 with _ | r1 <;> rcases hr2 : s.recOf e2 with _ | r2
  all_goals simp only [hr1, hr2] at hd ⊢
  all_goals refine ⟨fun x => by simp [recOf_setEdge, h1, h2], fun r => ?_⟩
  · simp
  · by_cases h : r2 = r
    · subst h; simp [getRec_setRec, hi.lt hr2]
    · simp [getRec_setRec, h]
  · by_cases h : r1 = r
    · subst h; simp [getRec_setRec, hi.lt hr1]
    · simp [getRec_setRec, h]
  · have hne : r1 ≠ r2 := by simpa using hd
    by_cases h : r2 = r
    · subst h; simp [getRec_setRec, hi.lt hr2, hne]
    · by_cases h' : r1 = r
      · subst h'; simp [getRec_setRec, hi.lt hr1, h]
      · simp [getRec_setRec, h, h']

theorem Coupled.replace {rec rec' : Nat → Option Nat} {a b r : Nat} {rc : Rec} (h : Coupled rec r rc)
    (hra : rec a = some r) (hrb : rec b ≠ some r) (hb : rec' b = some r) (ha : rec' a ≠ some r)
    (ho : ∀ x, x ≠ a → x ≠ b → rec' x = rec x) : Coupled rec' r (replaceSide rc a b) := by
  refine h.retip (h.side_isFront hra) ?_ (fun c => side_replaceSide rc a b c)
    (fun x hx => by cases hx; exact ⟨hb, hrb⟩) ha (fun x hxa hxb => by rw [ho x hxa fun h => hxb (h ▸ rfl)])
  unfold replaceSide
  split <;> exact h.pts_ne a hra

theorem inv_swapOutrecs {s : St} {e1 e2 : Nat} (hi : Inv s) (h1 : e1 < s.edgeRec.length) (h2 : e2 < s.edgeRec.length)
    (hne : e1 ≠ e2) : Inv (swapOutrecs s e1 e2) := by
  by_cases hd : ((s.recOf e1).isSome && s.recOf e1 == s.recOf e2) = true
  · simp only [Bool.and_eq_true, beq_iff_eq] at hd
    obtain ⟨r, hr1⟩ := Option.isSome_iff_exists.mp hd.1
    have : swapOutrecs s e1 e2 =
        s.setRec r { s.getRec r with front := (s.getRec r).back, back := (s.getRec r).front } := by
      unfold swapOutrecs
      simp [← hd.2, hr1]
    rw [this]
    exact inv_setRec hi ((hi r).flip (fun c => by cases c <;> rfl) rfl)
  · obtain ⟨hrec, hg⟩ := swapOutrecs_eq hi h1 h2 hd
    have hd' r (hr1 : s.recOf e1 = some r) (hr2 : s.recOf e2 = some r) : False := by
      simp [hr1, hr2] at hd
    have hrec1 : (swapOutrecs s e1 e2).recOf e1 = s.recOf e2 := by rw [hrec, if_neg (Ne.symm hne), if_pos rfl]
    have hrec2 : (swapOutrecs s e1 e2).recOf e2 = s.recOf e1 := by rw [hrec, if_pos rfl]
    intro r
    rw [hg]
    split
    · next hr2 =>
      have hr1 : s.recOf e1 ≠ some r := fun h => hd' r h hr2
      exact (hi r).replace hr2 hr1 (hrec1.trans hr2) (hrec2 ▸ hr1)
        (fun x hx2 hx1 => by rw [hrec, if_neg (Ne.symm hx2), if_neg (Ne.symm hx1)])
    split
    · next hr2 hr1 =>
      exact (hi r).replace hr1 hr2 (hrec2.trans hr1) (hrec1 ▸ hr2)
        (fun x hx1 hx2 => by rw [hrec, if_neg (Ne.symm hx2), if_neg (Ne.symm hx1)])
    · next hr2 hr1 =>
      refine (hi r).frame (fun x => ?_) (fun c => rfl) id
      rw [hrec]
      split
      · exact iff_of_false hr1 (by subst_vars; exact hr2)
      split
      · exact iff_of_false hr2 (by subst_vars; exact hr1)
      · rfl

/-- the state of `addLocalMinPoly` once the new record is appended and both edges name it -/
def minStart (s : St) (e1 e2 : Nat) : St :=
  ({ s with recs := s.recs ++ [({} : Rec)] }.setEdge e1 (some s.recs.length)).setEdge e2 (some s.recs.length)

theorem getRec_minStart (s : St) (e1 e2 r : Nat) : (minStart s e1 e2).getRec r = s.getRec r := by
  show (s.recs ++ [({} : Rec)]).getD r {} = s.recs.getD r {}
  simp only [List.getD_eq_getElem?_getD, List.getElem?_append]
  split
  · rfl
  · next h => rw [List.getElem?_eq_none (Nat.le_of_not_lt h)]; cases r - s.recs.length <;> rfl

theorem recOf_minStart {s : St} {e1 e2 : Nat} (h1 : e1 < s.edgeRec.length) (h2 : e2 < s.edgeRec.length) (x : Nat) :
    (minStart s e1 e2).recOf x =
      if e2 = x then some s.recs.length else if e1 = x then some s.recs.length else s.recOf x := by
  unfold minStart
  rw [recOf_setEdge, recOf_setEdge]
  simp [h1, h2, St.recOf]

@[simp] theorem recs_length_minStart (s : St) (e1 e2 : Nat) :
    (minStart s e1 e2).recs.length = s.recs.length + 1 := by simp [minStart]

theorem edgeRec_length_minStart (s : St) (e1 e2 : Nat) :
    (minStart s e1 e2).edgeRec.length = s.edgeRec.length := by simp [minStart]

theorem setRec_setRec (s : St) (r : Nat) (x y : Rec) : (s.setRec r x).setRec r y = s.setRec r y := by
  simp [St.setRec]

/-- the part of `addLocalMinPoly` that gives the new record `n` its owner; `o` is the previous hot edge -/
def minOwner (t : Bool) (s : St) (n : Nat) (o : Option Nat) : St :=
  match o with
  | some k =>
    let pr := (s.recOf k).getD 0
    let s := if t then setOwner s n pr else s
    s.setRec n { s.getRec n with owner := some pr }
  | none => s.setRec n { s.getRec n with owner := none }

theorem Same.minOwner (t : Bool) (s : St) (n : Nat) (o : Option Nat) : Same s (minOwner t s n o) := by
  unfold Proofs.Ring.minOwner
  split
  · cases t
    · exact Same.setOwnerField
    · exact (Same.setOwner _ _ _).trans Same.setOwnerField
  · exact Same.setOwnerField

/-- which of its two edges becomes the new record's front edge (`addLocalMinPoly` decides by `isNew` and the previous
hot edge) plays no part in the coupling, hence `∃ a b` -/
theorem addLocalMinPoly_eq (s : St) (e1 e2 : Nat) (p : Point64) (isNew t : Bool) :
    ∃ a b, ((a = e1 ∧ b = e2) ∨ (a = e2 ∧ b = e1)) ∧
      let X := minOwner t (minStart s e1 e2) s.recs.length (prevHot (minStart s e1 e2) e1)
      addLocalMinPoly s e1 e2 p isNew t =
        X.setRec s.recs.length { X.getRec s.recs.length with pts := [p], front := some a, back := some b } := by
  -- whichever order is chosen, the last two assignments to the new record are one
  have leaf (o : Option Nat) (c : Prop) [Decidable c] (a b : Nat) (hab : (a = e1 ∧ b = e2) ∨ (a = e2 ∧ b = e1)) :
      ∃ a' b', ((a' = e1 ∧ b' = e2) ∨ (a' = e2 ∧ b' = e1)) ∧
        let X := minOwner t (minStart s e1 e2) s.recs.length o
        let Y := if c then X.setRec s.recs.length { X.getRec s.recs.length with front := some a, back := some b }
          else X.setRec s.recs.length { X.getRec s.recs.length with front := some b, back := some a }
        Y.setRec s.recs.length { Y.getRec s.recs.length with pts := [p] } =
          X.setRec s.recs.length { X.getRec s.recs.length with pts := [p], front := some a', back := some b' } := by
    have hn : s.recs.length < (minOwner t (minStart s e1 e2) s.recs.length o).recs.length := by
      rw [(Same.minOwner _ _ _ _).2.1]
      simp
    by_cases hc : c
    · exact ⟨a, b, hab, by simp only [if_pos hc]; rw [setRec_setRec, getRec_setRec, if_pos ⟨rfl, hn⟩]⟩
    · exact ⟨b, a, hab.symm.imp And.symm And.symm, by
        simp only [if_neg hc]; rw [setRec_setRec, getRec_setRec, if_pos ⟨rfl, hn⟩]⟩
  cases hk : prevHot (minStart s e1 e2) e1
  all_goals
    unfold addLocalMinPoly
    extract_lets +onlyGivenNames X r s0 s1
    rw [show prevHot s1 e1 = _ from hk]
  · exact leaf none _ e1 e2 (Or.inl ⟨rfl, rfl⟩)
  · exact leaf (some _) _ e2 e1 (Or.inr ⟨rfl, rfl⟩)

theorem inv_addLocalMinPoly {s : St} {e1 e2 : Nat} (p : Point64) (isNew t : Bool) (hi : Inv s)
    (h1 : e1 < s.edgeRec.length) (h2 : e2 < s.edgeRec.length) (hne : e1 ≠ e2)
    (hc1 : s.recOf e1 = none) (hc2 : s.recOf e2 = none) :
    Inv (addLocalMinPoly s e1 e2 p isNew t) ∧
    (addLocalMinPoly s e1 e2 p isNew t).edgeRec.length = s.edgeRec.length := by
  obtain ⟨a, b, hab, hs'⟩ := addLocalMinPoly_eq s e1 e2 p isNew t
  have hX := Same.minOwner t (minStart s e1 e2) s.recs.length (prevHot (minStart s e1 e2) e1)
  simp only [] at hs'
  generalize minOwner t _ _ _ = X at hs' hX
  rw [hs']
  have hn : s.recs.length < X.recs.length := by rw [hX.2.1]; simp
  have hrec : ∀ x, X.recOf x = if e2 = x then some s.recs.length else if e1 = x then some s.recs.length
      else s.recOf x := fun x => by rw [hX.recOf, recOf_minStart h1 h2]
  refine ⟨fun r => ?_, by rw [edgeRec_setRec, hX.1, edgeRec_length_minStart]⟩
  rw [getRec_setRec]
  split
  · next hr =>
    obtain ⟨rfl, -⟩ := hr
    have hra : X.recOf a = some s.recs.length ∧ X.recOf b = some s.recs.length ∧ a ≠ b := by
      rcases hab with ⟨rfl, rfl⟩ | ⟨rfl, rfl⟩ <;> simp [hrec, hne, Ne.symm hne]
    refine ⟨fun x hx => ?_, fun x hx => by simp, fun c x hx => ?_⟩
    · have : x = a ∨ x = b := by
        rw [recOf_setRec, hrec] at hx
        split at hx
        · rcases hab with ⟨rfl, rfl⟩ | ⟨rfl, rfl⟩ <;> simp [*]
        split at hx
        · rcases hab with ⟨rfl, rfl⟩ | ⟨rfl, rfl⟩ <;> simp [*]
        · exact absurd (hi.lt hx) (Nat.lt_irrefl _)
      rcases this with rfl | rfl
      · exact ⟨true, rfl⟩
      · exact ⟨false, rfl⟩
    · cases c <;> cases hx
      · exact ⟨hra.2.1, fun h => hra.2.2 (Option.some.inj h)⟩
      · exact ⟨hra.1, fun h => hra.2.2 (Option.some.inj h).symm⟩
  · next hr =>
    replace hr : s.recs.length ≠ r := fun h => hr ⟨h, hn⟩
    refine (hi r).frame (fun x => ?_) (fun c => ?_) ?_
    · rw [recOf_setRec, hrec]
      split
      · next h => exact iff_of_false (fun h' => hr (Option.some.inj h')) (by rw [← h, hc2]; simp)
      split
      · next h => exact iff_of_false (fun h' => hr (Option.some.inj h')) (by rw [← h, hc1]; simp)
      · rfl
    · rw [hX.side, getRec_minStart]
    · rw [(hX.2.2 r).1, getRec_minStart]
      exact id

theorem front_setPts (s : St) (r : Nat) (l : List Point64) (r' : Nat) :
    ((s.setRec r { s.getRec r with pts := l }).getRec r').front = (s.getRec r').front := by
  rw [getRec_setRec]
  split
  · next h => rw [h.1]
  · rfl

theorem inv_setPts {s : St} (r : Nat) {l : List Point64} (hi : Inv s) (hl : l ≠ []) :
    Inv (s.setRec r { s.getRec r with pts := l }) :=
  inv_setRec hi ⟨(hi r).side_of, fun _ _ => hl, (hi r).tip⟩

theorem addPtRing_ne_nil {ring : List Point64} (b : Bool) (p : Point64) (h : ring ≠ []) :
    (addPtRing ring b p).1 ≠ [] := by
  cases ring with
  | nil => exact absurd rfl h
  | cons f rest =>
    unfold addPtRing
    simp only []
    split
    · simp
    · split
      · simp
      · split <;> simp

theorem addOutPt_eq {s : St} {e r : Nat} (hr : s.recOf e = some r) (hp : (s.getRec r).pts ≠ []) (p : Point64) :
    addOutPt s e p =
      some (s.setRec r { s.getRec r with pts := (addPtRing (s.getRec r).pts ((s.getRec r).front == some e) p).1 },
        (addPtRing (s.getRec r).pts ((s.getRec r).front == some e) p).2) := by
  unfold addOutPt
  simp only [hr]
  rw [if_neg (by simpa using hp)]

/-- the part of `addLocalMaxPoly` that gives the closed record `r` its owner; `o` is the previous hot edge -/
def maxOwner (t : Bool) (s : St) (r : Nat) (o : Option Nat) : St :=
  if t then
    match o with
    | none => s.setRec r { s.getRec r with owner := none }
    | some k => setOwner s r ((s.recOf k).getD 0)
  else s

theorem Same.maxOwner (t : Bool) (s : St) (r : Nat) (o : Option Nat) : Same s (maxOwner t s r o) := by
  unfold Proofs.Ring.maxOwner
  split
  · split
    · exact Same.setOwnerField
    · exact Same.setOwner s _ _
  · exact Same.refl s

/-- `addLocalMaxPoly` on two hot edges of a coupled state: the two `isFront` answers are those of the edges'
records, and `addOutPt` does not fault -/
theorem addLocalMaxPoly_eq {s : St} {e1 e2 r1 r2 : Nat} (hi : Inv s) (hr1 : s.recOf e1 = some r1)
    (hr2 : s.recOf e2 = some r2) (p : Point64) (t : Bool) :
    addLocalMaxPoly s e1 e2 p t =
      if ((s.getRec r1).front == some e1) = ((s.getRec r2).front == some e2) then some { s with succeeded := false }
      else
        let res := addPtRing (s.getRec r1).pts ((s.getRec r1).front == some e1) p
        let s1 := s.setRec r1 { s.getRec r1 with pts := res.1 }
        if r1 = r2 then
          let s2 := s1.setRec r1 { s1.getRec r1 with pts := (s1.getRec r1).pts.rotateLeft res.2 }
          some (uncouple (maxOwner t s2 r1 (prevHot s2 e1)) e1)
        else if r1 < r2 then joinOutrecPaths s1 e1 e2 else joinOutrecPaths s1 e2 e1 := by
  unfold addLocalMaxPoly
  simp only [isFront, hr1, hr2, Option.map_some, addOutPt_eq hr1 ((hi r1).pts_ne e1 hr1), recOf_setRec,
    Option.getD_some, beq_iff_eq, Option.some.injEq]
  split
  · rfl
  split
  · unfold maxOwner
    simp only [recOf_setRec]
    cases t
    · rfl
    · generalize prevHot _ e1 = o
      cases o <;> rfl
  · rfl

theorem inv_addLocalMaxPoly {s : St} {e1 e2 : Nat} (p : Point64) (t : Bool) (hi : Inv s)
    (hh1 : (s.recOf e1).isSome) (hh2 : (s.recOf e2).isSome) :
    ∃ s', addLocalMaxPoly s e1 e2 p t = some s' ∧ Inv s' ∧ s'.edgeRec.length = s.edgeRec.length := by
  obtain ⟨r1, hr1⟩ := Option.isSome_iff_exists.mp hh1
  obtain ⟨r2, hr2⟩ := Option.isSome_iff_exists.mp hh2
  rw [addLocalMaxPoly_eq hi hr1 hr2]
  have hl := addPtRing_ne_nil ((s.getRec r1).front == some e1) p ((hi r1).pts_ne e1 hr1)
  generalize addPtRing _ _ p = res at hl ⊢
  have hi1 := inv_setPts r1 hi hl
  split
  · exact ⟨_, rfl, hi, rfl⟩
  · next hf =>
    dsimp only
    split
    · have hi2 := inv_setPts r1 hi1
        (mt (fun h => ((List.rotateLeft_perm _ res.2).symm.trans (.of_eq h)).eq_nil) ((hi1 r1).pts_ne e1 hr1))
      refine ⟨_, rfl, inv_uncouple e1 (inv_of_same (Same.maxOwner t _ r1 _) hi2), ?_⟩
      rw [(length_uncouple _ e1).2, (Same.maxOwner t _ r1 _).1]
      rfl
    · next hne =>
      split
      · exact inv_joinOutrecPaths hi1 hr1 hr2 hne (by rw [front_setPts, front_setPts]; exact hf)
      · exact inv_joinOutrecPaths hi1 hr2 hr1 (Ne.symm hne) (by rw [front_setPts, front_setPts]; exact Ne.symm hf)

theorem edgeRec_length_swapOutrecs (s : St) (e1 e2 : Nat) :
    (swapOutrecs s e1 e2).edgeRec.length = s.edgeRec.length := by
  unfold swapOutrecs
  simp only []
  split
  · rfl
  · cases s.recOf e1 <;> cases s.recOf e2 <;> simp

theorem inv_init (n : Nat) : Inv { edgeRec := List.replicate n none } := by
  intro r
  refine Coupled.of_cold (fun e => ?_) (fun c => ?_)
  · simp only [St.recOf, List.getD_eq_getElem?_getD, List.getElem?_replicate]
    split <;> simp
  · cases c <;> simp [St.getRec]

theorem step_spec (t : Bool) {s : St} {op : Op} (hi : Inv s) (hv : validB s op = true) :
    ∃ s', step t s op = some s' ∧ Inv s' ∧ s'.edgeRec.length = s.edgeRec.length := by
  cases op <;>
    simp only [validB, Bool.and_eq_true, decide_eq_true_eq, bne_iff_ne, ne_eq, Option.isNone_iff_eq_none] at hv
  case min e1 e2 p isNew =>
    obtain ⟨⟨⟨⟨h1, h2⟩, hne⟩, hc1⟩, hc2⟩ := hv
    exact ⟨_, rfl, inv_addLocalMinPoly p isNew t hi h1 h2 hne hc1 hc2⟩
  case pt e p =>
    obtain ⟨r, hr⟩ := Option.isSome_iff_exists.mp hv.2
    have hp := (hi r).pts_ne e hr
    exact ⟨_, by simp only [step, addOutPt_eq hr hp, Option.map_some],
      inv_setPts r hi (addPtRing_ne_nil ((s.getRec r).front == some e) p hp), rfl⟩
  case max e1 e2 p => exact inv_addLocalMaxPoly p t hi hv.1.2 hv.2
  case swap e1 e2 =>
    obtain ⟨⟨h1, h2⟩, hne⟩ := hv
    exact ⟨_, rfl, inv_swapOutrecs hi h1 h2 hne, edgeRec_length_swapOutrecs s e1 e2⟩

inductive Reachable (t : Bool) (n : Nat) : St → Prop
  | init : Reachable t n { edgeRec := List.replicate n none }
  | step (s s' : St) (op : Op) : Reachable t n s → validB s op = true → step t s op = some s' → Reachable t n s'

theorem reachable_spec (t : Bool) (n : Nat) (s : St) (h : Reachable t n s) : Inv s ∧ s.edgeRec.length = n := by
  induction h with
  | init => exact ⟨inv_init n, by simp⟩
  | step s s' op _ hv hs ih =>
    obtain ⟨s'', hs', hi', hl⟩ := step_spec t ih.1 hv
    cases hs.symm.trans hs'
    exact ⟨hi', hl.trans ih.2⟩

theorem addPtRing_front_path (f : Point64) (rest : List Point64) (p : Point64) :
    path (addPtRing (f :: rest) true p).1 = if p = f then path (f :: rest) else p :: path (f :: rest) := by
  by_cases h : p = f <;> simp [addPtRing, path, h]

theorem addPtRing_back_path (f : Point64) (rest : List Point64) (p : Point64) :
    path (addPtRing (f :: rest) false p).1 =
      if p = (path (f :: rest)).getLast (by simp [path]) then path (f :: rest) else path (f :: rest) ++ [p] := by
  cases rest with
  | nil => by_cases h : p = f <;> simp [addPtRing, path, h]
  | cons a t => by_cases h : p = a <;> simp [addPtRing, path, h, List.getLast_cons]

theorem addPtRing_result (f : Point64) (rest : List Point64) (toFront : Bool) (p : Point64) :
    ((addPtRing (f :: rest) toFront p).1.rotateLeft (addPtRing (f :: rest) toFront p).2).head? = some p := by
  cases toFront
  · cases rest with
    | nil => by_cases h : p = f <;> simp [addPtRing, h, List.rotateLeft]
    | cons a t => by_cases h : p = a <;> simp [addPtRing, h, List.rotateLeft]
  · by_cases h : p = f <;> simp [addPtRing, h, List.rotateLeft]

end Proofs.Ring
