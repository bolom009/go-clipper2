import ClipVerif.Model.BuildPaths
import ClipVerif.Proofs.Split
import ClipVerif.Proofs.Out
import ClipVerif.Proofs.Basic
/-
`Model.BuildPaths`.  One lemma about the loop over the record list (`buildPathsLoop_all`), generic in what
holds of the records (`I`, also of those the repair appends while the loop runs) and of the emitted paths
(`R`): where the points come from and that no path has two equal adjacent points are two instances.
-/
namespace Proofs.BuildPaths
open Gen Model Proofs.Out

theorem buildPath_mem (ring : List Point64) (reverse isOpen : Bool) (path : List Point64)
    (h : buildPath ring reverse isOpen = some path) : ∀ q ∈ path, q ∈ ring := by
  obtain ⟨hn, rfl⟩ := buildPath_some h
  cases ring with
  | nil => cases hn
  | cons a t => exact fun q hq => (seqOf_perm a t reverse).subset ((Proofs.Dedup.dedup_sublist _).subset hq)

theorem cleanCollinear_provenance (P : Point64 → Prop)
    (hP : ∀ a b c d, P a → P b → P c → P d → P (getSegmentIntersectPt a b c d).1)
    (preserve : Bool)
    (ring : List Point64) (h : ∀ q ∈ ring, P q) (main : Option (List Point64)) (news : List (List Point64))
    (hr : cleanCollinear preserve ring = some (main, news)) :
    (∀ r, main = some r → ∀ q ∈ r, P q) ∧ (∀ t ∈ news, ∀ q ∈ t, P q) := by
  unfold cleanCollinear at hr
  simp only [] at hr
  split at hr
  · cases hr
    exact ⟨nofun, nofun⟩
  · refine Proofs.Split.fix_provenance P hP _ ?_ main news hr
    intro q hq
    exact h q ((clean_sublist preserve ring).subset ((List.rotateLeft_perm _ _).subset hq))

/-- Every emitted path is `R`, provided `buildPath` makes `R` paths of rings that are `I`, and `I` holds of
    the records at the start and of whatever `cleanCollinear` leaves of an `I` ring or splits off it. -/
theorem buildPathsLoop_all (I R : List Point64 → Prop) (preserve reverse : Bool)
    (hclean : ∀ ring main news, I ring → cleanCollinear preserve ring = some (main, news) →
      (∀ m, main = some m → I m) ∧ ∀ t ∈ news, I t)
    (hbuild : ∀ m p, I m → buildPath m reverse false = some p → R p)
    {fuel : Nat} {recs : Array (List Point64)} {i : Nat} {acc out : List (List Point64)}
    (ho : buildPathsLoop preserve reverse fuel recs i acc = some out)
    (hrecs : ∀ r ∈ recs, I r) (hacc : ∀ p ∈ acc, R p) : ∀ p ∈ out, R p := by
  induction fuel generalizing recs i acc with
  | zero => cases ho
  | succ f ih =>
    unfold buildPathsLoop at ho
    simp only [] at ho
    split at ho
    · cases ho
      exact fun p hp => hacc p (List.mem_reverse.mp hp)
    · next hi =>
      split at ho
      · exact ih ho hrecs hacc
      · split at ho
        · cases ho
        · next main news hcc =>
          have hmem : recs[i]! ∈ recs := Array.mem_def.mpr (Array.getElem!_mem_toList recs i (by omega))
          obtain ⟨hmain, hnews⟩ := hclean _ main news (hrecs _ hmem) hcc
          refine ih ho (fun r hr => ?_) (fun p hp => ?_)
          · simp only [List.foldl_push_eq_append', Array.mem_append, List.mem_toArray] at hr
            rcases hr with hr | hr
            · exact hrecs r hr
            · exact hnews r hr
          · split at hp
            · next p' hb =>
              rcases List.mem_cons.mp hp with rfl | hp
              · obtain ⟨m, rfl, hb⟩ := Option.bind_eq_some_iff.1 hb
                exact hbuild m p (hmain m rfl) hb
              · exact hacc p hp
            · exact hacc p hp

theorem buildPaths_provenance (P : Point64 → Prop)
    (hP : ∀ a b c d, P a → P b → P c → P d → P (getSegmentIntersectPt a b c d).1)
    (preserve reverse : Bool)
    (recs : List (List Point64)) (h : ∀ r ∈ recs, ∀ q ∈ r, P q) (out : List (List Point64))
    (ho : buildPaths preserve reverse recs = some out) :
    ∀ p ∈ out, ∀ q ∈ p, P q :=
  buildPathsLoop_all (fun r => ∀ q ∈ r, P q) (fun r => ∀ q ∈ r, P q) preserve reverse
    (fun ring main news h => cleanCollinear_provenance P hP preserve ring h main news)
    (fun m p hm hb q hq => hm q (buildPath_mem m reverse false p hb q hq))
    ho (fun r hr => h r (List.mem_toArray.1 hr)) (fun _ hp => nomatch hp)

theorem buildPaths_no_adjacent_duplicates (preserve reverse : Bool) (recs : List (List Point64))
    (out : List (List Point64)) (ho : buildPaths preserve reverse recs = some out) :
    ∀ p ∈ out, ∀ i, i + 1 < p.length → p[i]! ≠ p[i + 1]! :=
  buildPathsLoop_all (fun _ => True) (fun p => ∀ i, i + 1 < p.length → p[i]! ≠ p[i + 1]!) preserve reverse
    (fun _ _ _ _ _ => ⟨fun _ _ => trivial, fun _ _ => trivial⟩)
    (fun m p _ hb => build_no_adjacent_duplicates m reverse false p hb)
    ho (fun _ _ => trivial) (fun _ hp => nomatch hp)

end Proofs.BuildPaths
