import ClipVerif.Model.Conv
import ClipVerif.Model.AreaOP
import ClipVerif.Proofs.Chain
import ClipVerif.Proofs.Basic
/-
The doubled shoelace sum `Spec.area2` of a path of 64-bit points is the cyclic sum of `term`, and the two
loops that compute it: `Area64` in `Int64` (exact when the sum fits), `Model.areaOPExact2` in `Int`.
Both loops start at the edge from the last point to the first, the specification at the edge from the
first to the second: one cyclic sum read from two vertices (`cyc_concat`).  Core Lean only.
-/
namespace Proofs.C15b
open Gen Proofs.Chain

/-- doubled shoelace contribution of the directed edge a→b -/
def term (a b : Point64) : Int := (a.Y.toInt + b.Y.toInt) * (a.X.toInt - b.X.toInt)

theorem area2_eq (l : List Point64) : Spec.area2 (pathToI l) = cyc term l := by
  rw [pathToI, area2_eq_cyc, cyc_map]; rfl

end Proofs.C15b

namespace Proofs.C14
open Gen Proofs.Chain Proofs.C15b

theorem area_fold (l : List Point64) (a : Int64) (prev : Point64) :
    (List.foldl Area64_loop1 (a, prev) l).1 = a + Int64.ofInt (chain term (prev :: l)) := by
  induction l generalizing a prev with
  | nil => simp [chain]
  | cons x xs ih =>
    have hs : Area64_loop1 (a, prev) x = (a + (prev.Y + x.Y) * (prev.X - x.X), x) := rfl
    rw [List.foldl_cons, hs, ih]
    simp only [chain, term, Int64.ofInt_add, Int64.ofInt_mul, Int64.ofInt_sub, Int64.ofInt_toInt,
      Int64.add_assoc]

theorem idx_concat (m : List Point64) (z : Point64) :
    idx (m ++ [z]) (((m ++ [z]).length : Int) - 1) = .ok z := by
  have h1 : (((m ++ [z]).length : Int) - 1).toNat = m.length := by simp
  rw [idx, if_neg (by simp), h1, List.getElem?_concat_length]

theorem area64_accumulator (path : List Point64) (h : 3 ≤ path.length) :
    Area64 path = .ok (Int64.ofInt (Spec.area2 (pathToI path))) := by
  rcases List.eq_nil_or_snoc path with rfl | ⟨m, z, rfl⟩
  · simp at h
  · have hlen : ¬ (((m ++ [z]).length : Int) < 3) := by omega
    unfold Area64
    simp only [hlen, decide_false, Bool.false_eq_true, if_false, idx_concat]
    simp only [bind, Except.bind, pure, Except.pure, area_fold, Int64.zero_add]
    rw [area2_eq, cyc_concat]

theorem area64_exact (path : List Point64) (h : 3 ≤ path.length)
    (hfit : -(2:Int)^63 ≤ Spec.area2 (pathToI path) ∧ Spec.area2 (pathToI path) < (2:Int)^63) :
    ∃ a, Area64 path = .ok a ∧ a.toInt = Spec.area2 (pathToI path) :=
  ⟨_, area64_accumulator path h, Int64.toInt_ofInt_of_le hfit.1 hfit.2⟩

theorem area64_short (path : List Point64) (h : path.length < 3) : Area64 path = .ok 0 := by
  unfold Area64
  have hlen : ((path.length : Int) < 3) := by omega
  simp only [hlen, decide_true, if_true]
  rfl

end Proofs.C14

namespace Proofs.AreaOP
open Model Proofs.Chain

theorem acc_eq (l : List IPt) (prev : IPt) (acc : Int) :
    areaOPExactAcc prev l acc = acc + chain (fun a b => (a.y + b.y) * (a.x - b.x)) (prev :: l) := by
  induction l generalizing prev acc with
  | nil => simp [areaOPExactAcc, chain]
  | cons c l ih =>
    simp only [areaOPExactAcc, ih, chain]
    omega

theorem areaOPExact2_eq_area2 (ring : List IPt) : Model.areaOPExact2 ring = Spec.area2 ring := by
  rcases List.eq_nil_or_snoc ring with rfl | ⟨m, z, rfl⟩
  · rfl
  · rw [areaOPExact2, List.getLast?_concat]
    simp only
    rw [acc_eq, Int.zero_add, area2_eq_cyc, cyc_concat]

end Proofs.AreaOP
