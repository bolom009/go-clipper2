import ClipVerif.Model.Out
import ClipVerif.Model.Vertex
import ClipVerif.Model.Lists
import ClipVerif.Proofs.Basic
/-
Lists without two equal neighbours, and the places of the model that remove equal neighbours:
`dedupAdjacent` (buildPath), `dedupConsecutive` (addPathsToVertexList; the same function) and
`stripDuplicates`, which is `dedupAdjacent` followed, for a closed path, by dropping a last point that
repeats the first (`unclose`).
-/
namespace Proofs.Dedup
open Gen Model

/-- no two equal neighbours -/
def NoAdj {α : Type} : List α → Prop
  | a :: b :: l => a ≠ b ∧ NoAdj (b :: l)
  | _ => True

namespace NoAdj
variable {α : Type} {a : α} {l : List α}

theorem cons_iff : NoAdj (a :: l) ↔ l.head? ≠ some a ∧ NoAdj l := by
  cases l with
  | nil => simp [NoAdj]
  | cons b l => simp [NoAdj, eq_comm]

theorem concat_iff : ∀ {l : List α}, NoAdj (l ++ [a]) ↔ NoAdj l ∧ l.getLast? ≠ some a
  | [] => by simp [NoAdj]
  | [b] => by simp [NoAdj]
  | b :: c :: l => by
    have := concat_iff (l := c :: l)
    simp only [List.cons_append, NoAdj, List.getLast?_cons_cons] at this ⊢
    rw [this, and_assoc]

theorem dropLast (h : NoAdj l) : NoAdj l.dropLast := by
  rcases List.eq_nil_or_snoc l with rfl | ⟨m, z, rfl⟩
  · exact h
  · rw [List.dropLast_concat]; exact (concat_iff.1 h).1

theorem reverse_iff : NoAdj l.reverse ↔ NoAdj l := by
  induction l with
  | nil => rfl
  | cons a l ih => rw [List.reverse_cons, concat_iff, List.getLast?_reverse, ih, cons_iff, and_comm]

theorem iff_getElem : ∀ {l : List α}, NoAdj l ↔ ∀ i, (h : i + 1 < l.length) → l[i] ≠ l[i + 1]
  | [] => by simp [NoAdj]
  | [_] => by simp [NoAdj]
  | a :: b :: l => by
    rw [NoAdj, iff_getElem (l := b :: l)]
    constructor
    · rintro ⟨h0, hs⟩ (_ | i) h
      · exact h0
      · exact hs i (by simpa using h)
    · exact fun h => ⟨h 0 (by simp), fun i hi => h (i + 1) (by simpa using hi)⟩

theorem iff_getElem! [Inhabited α] : NoAdj l ↔ ∀ i, i + 1 < l.length → l[i]! ≠ l[i + 1]! := by
  rw [iff_getElem]
  refine forall_congr' fun i => forall_congr' fun h => ?_
  rw [getElem!_pos l i (by omega), getElem!_pos l (i + 1) h]

theorem cyclic [Inhabited α] (hN : NoAdj l) (hE : l.head? ≠ l.getLast?) (i : Nat) (hi : i < l.length) :
    l[i]! ≠ l[(i + 1) % l.length]! := by
  by_cases hlt : i + 1 < l.length
  · rw [Nat.mod_eq_of_lt hlt]
    exact iff_getElem!.1 hN i hlt
  · rw [show i + 1 = l.length by omega, Nat.mod_self, getElem!_pos l i hi, getElem!_pos l 0 (by omega)]
    intro e
    apply hE
    rw [List.head?_eq_getElem?, List.getLast?_eq_getElem?, List.getElem?_eq_getElem (by omega),
      List.getElem?_eq_getElem (by omega), ← e]
    congr 2
    omega

end NoAdj

theorem dedupConsecutive_eq : dedupConsecutive = dedupAdjacent := by
  have go (l last) : dedupConsecutive.go last l = dedupAdjacent.go last l := by
    induction l generalizing last with
    | nil => rfl
    | cons q l ih => simp only [dedupConsecutive.go, dedupAdjacent.go, ih]
  funext l
  cases l with
  | nil => rfl
  | cons p l => simp only [dedupConsecutive, dedupAdjacent, go]

theorem go_noAdj (l : List Point64) (last : Point64) : NoAdj (last :: dedupAdjacent.go last l) := by
  induction l generalizing last with
  | nil => trivial
  | cons q l ih =>
    unfold dedupAdjacent.go
    split
    · exact ih last
    · next hne => exact ⟨fun e => hne e.symm, ih q⟩

theorem go_sublist (l : List Point64) (last : Point64) : (dedupAdjacent.go last l).Sublist l := by
  induction l generalizing last with
  | nil => exact .slnil
  | cons q l ih =>
    unfold dedupAdjacent.go
    split
    · exact (ih last).cons q
    · exact (ih q).cons_cons q

theorem go_id (l : List Point64) (last : Point64) (h : NoAdj (last :: l)) : dedupAdjacent.go last l = l := by
  induction l generalizing last with
  | nil => rfl
  | cons q l ih =>
    unfold dedupAdjacent.go
    rw [if_neg (fun e => h.1 e.symm), ih q h.2]

theorem go_map {f : Point64 → Point64} (hf : ∀ a b, f a = f b ↔ a = b) (l : List Point64)
    (last : Point64) : dedupAdjacent.go (f last) (l.map f) = (dedupAdjacent.go last l).map f := by
  induction l generalizing last with
  | nil => rfl
  | cons q l ih =>
    simp only [List.map_cons, dedupAdjacent.go, hf, ih]
    split <;> rfl

theorem dedup_noAdj : ∀ l, NoAdj (dedupAdjacent l)
  | [] => trivial
  | p :: l => go_noAdj l p

theorem dedup_sublist : ∀ l, (dedupAdjacent l).Sublist l
  | [] => .slnil
  | p :: l => (go_sublist l p).cons_cons p

theorem dedup_id : ∀ l, NoAdj l → dedupAdjacent l = l
  | [], _ => rfl
  | p :: l, h => congrArg (p :: ·) (go_id l p h)

theorem dedup_map {f : Point64 → Point64} (hf : ∀ a b, f a = f b ↔ a = b) :
    ∀ l, dedupAdjacent (l.map f) = (dedupAdjacent l).map f
  | [] => rfl
  | p :: l => congrArg (f p :: ·) (go_map hf l p)

def unclose {α : Type} [DecidableEq α] (l : List α) : List α :=
  if l.getLast? = l.head? then l.dropLast else l

section unclose
variable {α : Type} [DecidableEq α] {l : List α}

theorem unclose_sublist (l : List α) : (unclose l).Sublist l := by
  unfold unclose
  split
  · exact List.dropLast_sublist l
  · exact .refl l

theorem NoAdj.unclose (h : NoAdj l) : NoAdj (unclose l) := by
  unfold Dedup.unclose
  split
  · exact h.dropLast
  · exact h

theorem unclose_of_ne (h : l.getLast? ≠ l.head?) : unclose l = l := if_neg h

/-- either the ends differed already, or the list was `a :: m ++ [a]` with `m ≠ []`, and the last of `m`
    is a neighbour of the closing `a` -/
theorem unclose_ends (h : NoAdj l) (hl : 1 < (unclose l).length) :
    (unclose l).head? ≠ (unclose l).getLast? := by
  unfold unclose at hl ⊢
  split
  · next he =>
    rw [if_pos he] at hl
    rcases List.eq_nil_or_snoc l with rfl | ⟨m, z, rfl⟩
    · cases hl
    · rw [List.dropLast_concat] at hl ⊢
      obtain ⟨a, m, rfl⟩ := List.exists_cons_of_length_pos (Nat.lt_of_succ_lt hl)
      rw [List.getLast?_concat, List.cons_append, List.head?_cons] at he
      rw [List.head?_cons, ← he]
      exact fun e => (NoAdj.concat_iff.1 h).2 e.symm
  · next he => exact fun e => he e.symm

theorem unclose_map {β : Type} [DecidableEq β] (f : α → β) (hf : ∀ a b, f a = f b ↔ a = b) (l : List α) :
    unclose (l.map f) = (unclose l).map f := by
  unfold unclose
  rw [List.getLast?_map, List.head?_map, ← List.map_dropLast]
  have : (l.getLast?.map f = l.head?.map f) ↔ l.getLast? = l.head? := by
    cases l.getLast? <;> cases l.head? <;> simp [hf]
  simp only [this]
  split <;> rfl

end unclose

theorem nequals_iff (p q : Point64) : Point64_NEquals p q = true ↔ p ≠ q := by
  cases p; cases q
  simp only [Point64_NEquals, Id.run, pure, ne_eq, Point64.mk.injEq, Bool.or_eq_true,
    decide_eq_true_eq, Classical.not_and_iff_not_or_not]

theorem equals_iff (p q : Point64) : Point64_Equals p q = true ↔ p = q := by
  cases p; cases q
  simp only [Point64_Equals, Id.run, pure, Point64.mk.injEq, Bool.and_eq_true, decide_eq_true_eq]

/-- the loop of `StripDuplicates` builds `dedupAdjacent.go`, reversed, on top of what it has -/
theorem strip_fold (rest : List Point64) (last : Point64) (acc : List Point64) :
    rest.foldl (fun (st : Point64 × List Point64) q =>
        if Point64_NEquals st.1 q then (q, q :: st.2) else st) (last, acc) =
      (((last :: dedupAdjacent.go last rest).getLast (List.cons_ne_nil _ _)),
        (dedupAdjacent.go last rest).reverse ++ acc) := by
  induction rest generalizing last acc with
  | nil => rfl
  | cons q rest ih =>
    rw [List.foldl_cons, dedupAdjacent.go]
    by_cases h : q = last
    · rw [if_pos h, if_neg (by rw [nequals_iff]; exact fun e => e h.symm), ih]
    · rw [if_neg h, if_pos ((nequals_iff last q).2 (Ne.symm h)), ih, List.getLast_cons (List.cons_ne_nil _ _),
        List.reverse_cons, List.append_assoc, List.singleton_append]

theorem stripDuplicates_eq (path : List Point64) (closed : Bool) :
    stripDuplicates path closed =
      if closed then unclose (dedupAdjacent path) else dedupAdjacent path := by
  cases path with
  | nil => cases closed <;> rfl
  | cons p0 rest =>
    have hr : (dedupAdjacent.go p0 rest).reverse ++ [p0] = (dedupAdjacent (p0 :: rest)).reverse :=
      List.reverse_cons.symm
    unfold stripDuplicates
    simp only [strip_fold, hr, List.reverse_reverse]
    generalize hK : dedupAdjacent (p0 :: rest) = K
    have hh : K.head? = some p0 := by rw [← hK]; rfl
    rcases List.eq_nil_or_snoc K with rfl | ⟨m, z, rfl⟩
    · cases hh
    · rw [List.reverse_append, List.reverse_singleton, List.singleton_append]
      simp only [unclose, hh, List.getLast?_concat, Option.some.injEq, Bool.and_eq_true, equals_iff]
      cases closed <;> simp

end Proofs.Dedup
