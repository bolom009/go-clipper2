import ClipVerif.Proofs.Ring
import ClipVerif.Proofs.OwnerGraph
/-
Owner chains of the output records end: `setOwner`'s two loops (and the owner walks of the PolyTree
builder) follow `owner` pointers without any bound, so a cycle among them is a hang.  For every state
reached by valid operations in which `addLocalMinPoly` / `addLocalMaxPoly` are called with the left edge
first (as the sweep does), the owner relation is well founded.

The owner pointers of a state are read as a graph (`ow`, theory in `Proofs.OwnerGraph`); that all chains
end is the same as that this graph has no cycle (`acyclic_iff`), and the proofs speak of the latter.
Of the fuel in `setOwner` only that of the second loop (`onChain`) is shown to suffice; the statements hold whatever
the first loop (`skipEmptyOwners`) does with its fuel.
-/
namespace Proofs.RingOwner
open Model.Ring Proofs.Ring Proofs.OwnerGraph Gen

/-- the owner chain that starts at record `r` ends (reaches a record without owner) -/
inductive Ends (s : St) : Nat → Prop
  | root (r : Nat) : (s.getRec r).owner = none → Ends s r
  | next (r o : Nat) : (s.getRec r).owner = some o → Ends s o → Ends s r

def Acyclic (s : St) : Prop := ∀ r, Ends s r

/-- the sweep calls `addLocalMinPoly(ae1, ae2, …)` and `addLocalMaxPoly(ae1, ae2, …)` with `ae1` left of `ae2` -/
def orderedB : Op → Bool
  | .min e1 e2 _ _ => decide (e1 < e2)
  | .max e1 e2 _ => decide (e1 < e2)
  | _ => true

inductive ReachableO (t : Bool) (n : Nat) : St → Prop
  | init : ReachableO t n { edgeRec := List.replicate n none }
  | step (s s' : St) (op : Op) : ReachableO t n s → validB s op = true → orderedB op = true →
      step t s op = some s' → ReachableO t n s'

def ow (s : St) (r : Nat) : Option Nat := (s.getRec r).owner

theorem ow_lt {s : St} {r o : Nat} (h : ow s r = some o) : r < s.recs.length :=
  Nat.lt_of_not_le fun hge => by rw [ow, getRec_of_ge hge] at h; cases h

theorem ends_ow {s : St} (h : Acyc (ow s)) (a : Nat) : EndsIn (ow s) (s.recs.length + 1) (some a) :=
  endsIn_of_acyc h (fun _ _ => ow_lt) a

theorem ow_setOwnerField {s : St} {a : Nat} (v : Option Nat) (ha : a < s.recs.length) :
    ow (s.setRec a { s.getRec a with owner := v }) = upd (ow s) a v := by
  funext y
  rw [ow, owner_setRec]
  by_cases h : y = a
  · rw [h, upd_same, if_pos ⟨rfl, ha⟩]
  · rw [upd_ne h, if_neg fun e => h e.1.symm]
    rfl

theorem ends_of_endsIn {s : St} {f r : Nat} (h : EndsIn (ow s) f (some r)) : Ends s r := by
  induction f generalizing r with
  | zero => exact h.elim
  | succ f ih =>
    cases ho : ow s r with
    | none => exact Ends.root r ho
    | some o =>
      simp only [EndsIn, ho] at h
      exact Ends.next r o ho (ih h)

/-- right to left: a record with an owner is in the table, so a chain without repetition has at most `recs.length`
links (`ends_ow`) -/
theorem acyclic_iff (s : St) : Acyclic s ↔ Acyc (ow s) := by
  refine ⟨fun h a b hab => ?_, fun h r => ends_of_endsIn (ends_ow h r)⟩
  induction h a generalizing b with
  | root r hr => rw [show ow s r = none from hr] at hab; cases hab
  | next r o ho _ ih =>
    rw [show ow s r = some o from ho] at hab
    cases hab
    intro hR
    cases hR with
    | refl => exact ih r ho (Reach.refl r)
    | step ho2 hR2 => exact ih _ ho2 (hR2.trans (Reach.step ho (Reach.refl _)))

theorem acyc_setOwnerField {s : St} {a : Nat} {v : Option Nat} (hA : Acyc (ow s))
    (hv : ∀ o, v = some o → ¬ Reach (ow s) o a) : Acyc (ow (s.setRec a { s.getRec a with owner := v })) := by
  by_cases ha : a < s.recs.length
  · rw [ow_setOwnerField v ha]
    exact acyc_upd hA hv
  · rw [St.setRec, List.set_eq_of_length_le (Nat.le_of_not_lt ha)]
    exact hA

theorem acyc_skipEmptyOwners (fuel : Nat) {s : St} (r : Nat) (hA : Acyc (ow s)) :
    Acyc (ow (skipEmptyOwners fuel s r)) := by
  induction fuel generalizing s with
  | zero => exact hA
  | succ n ih =>
    unfold skipEmptyOwners
    split
    · next o ho =>
      split
      · exact ih (acyc_setOwnerField hA fun o2 h2 hR => hA r o ho (Reach.step h2 hR))
      · exact hA
    · exact hA

theorem onChain_none (fuel : Nat) (s : St) (a : Nat) : onChain fuel s none a = false := by
  cases fuel <;> rfl

theorem onChain_eq (fuel : Nat) (s : St) (o : Option Nat) (a : Nat) :
    onChain fuel s o a = finds (ow s) a fuel o := by
  induction fuel generalizing o with
  | zero => rfl
  | succ n ih =>
    cases o with
    | none => rfl
    | some r =>
      rw [onChain, finds, ← ih]
      cases r == a <;> rfl

theorem acyc_setOwner {s : St} {a b : Nat} (h : Acyc (ow s)) (hne : a ≠ b) : Acyc (ow (setOwner s a b)) := by
  unfold Model.Ring.setOwner
  have h1 := acyc_skipEmptyOwners (s.recs.length + 1) b h
  generalize skipEmptyOwners (s.recs.length + 1) s b = s1 at h1 ⊢
  simp only []
  rw [onChain_eq]
  split
  · next hc =>
    -- `a` is above `b`: `b` moves to the owner of `a`, then `a` is linked under `b`
    have hR := reach_of_finds hc
    have hb : b < s1.recs.length := by
      cases hR with
      | refl => exact absurd rfl hne
      | step ho _ => exact ow_lt ho
    obtain ⟨h2, hn⟩ := acyc_cut h1 hR (Ne.symm hne)
    rw [← ow_setOwnerField _ hb] at h2 hn
    exact acyc_setOwnerField h2 fun o ho => by cases ho; exact hn
  · next hc =>
    -- the fuel `recs.length + 1` of the search covers the chain of `b` (`ends_ow`): `a` is not above `b`
    exact acyc_setOwnerField h1 fun o ho hR => hc (by
      cases ho
      exact finds_of_reach (ends_ow h1 b) hR)

def OIR (s : St) : Prop := ∀ x o, ow s x = some o → o < s.recs.length

/-- the invariant of the operation sequences.  That owners are existing records (`oir`) is what makes the record
`addLocalMinPoly` appends nobody's owner, so that giving it an owner closes no cycle (`reach_fresh`) -/
structure OwnersOK (s : St) : Prop where
  acyc : Acyc (ow s)
  oir : OIR s

def SameOwn (s s' : St) : Prop :=
  s'.recs.length = s.recs.length ∧ ∀ r, ow s' r = ow s r

theorem SameOwn.refl (s : St) : SameOwn s s := ⟨rfl, fun _ => rfl⟩

theorem SameOwn.trans {a b c : St} (h1 : SameOwn a b) (h2 : SameOwn b c) : SameOwn a c :=
  ⟨h2.1.trans h1.1, fun r => (h2.2 r).trans (h1.2 r)⟩

theorem ownersOK_sameOwn {s s' : St} (h : SameOwn s s') (hg : OwnersOK s) : OwnersOK s' := by
  refine ⟨funext h.2 ▸ hg.acyc, fun x o hx => ?_⟩
  rw [h.1]
  rw [h.2] at hx
  exact hg.oir x o hx

theorem sameOwn_setRec {s : St} {r : Nat} {x : Rec} (h : x.owner = (s.getRec r).owner) :
    SameOwn s (s.setRec r x) := ⟨by simp, fun r' => owner_setRec_same s r x r' h⟩

theorem sameOwn_setEdge (s : St) (e : Nat) (v : Option Nat) : SameOwn s (s.setEdge e v) := ⟨rfl, fun _ => rfl⟩

theorem ownersOK_setRec_same {s : St} {r : Nat} {x : Rec} (hx : x.owner = (s.getRec r).owner) (hg : OwnersOK s) :
    OwnersOK (s.setRec r x) := ownersOK_sameOwn (sameOwn_setRec hx) hg

theorem oir_setOwnerField {s : St} (r : Nat) {v : Option Nat} (h : OIR s)
    (hv : ∀ o, v = some o → o < s.recs.length) : OIR (s.setRec r { s.getRec r with owner := v }) := by
  intro x o hx
  rw [ow, owner_setRec] at hx
  rw [recs_length_setRec]
  split at hx
  · exact hv o hx
  · exact h x o hx

theorem oir_skipEmptyOwners (fuel : Nat) {s : St} (r : Nat) (h : OIR s) : OIR (skipEmptyOwners fuel s r) := by
  induction fuel generalizing s with
  | zero => exact h
  | succ n ih =>
    unfold skipEmptyOwners
    split
    · next o ho =>
      split
      · exact ih (oir_setOwnerField r h (fun o' ho' => h o o' ho'))
      · exact h
    · exact h

theorem oir_setOwner {s : St} (a : Nat) {b : Nat} (h : OIR s) (hb : b < s.recs.length) : OIR (setOwner s a b) := by
  unfold Model.Ring.setOwner
  have h1 := oir_skipEmptyOwners (s.recs.length + 1) b h
  have hl := (Same.skipEmptyOwners (s.recs.length + 1) s b).2.1
  generalize skipEmptyOwners (s.recs.length + 1) s b = s1 at h1 hl ⊢
  simp only []
  split
  · apply oir_setOwnerField
    · exact oir_setOwnerField b h1 (fun o ho => h1 a o ho)
    · intro o ho
      cases ho
      rw [recs_length_setRec, hl]
      exact hb
  · apply oir_setOwnerField _ h1
    intro o ho
    cases ho
    rw [hl]
    exact hb

theorem setOwner_owner_self {s : St} {a : Nat} (b : Nat) (ha : a < s.recs.length) :
    ((setOwner s a b).getRec a).owner = some b := by
  have hl := recs_length_setOwner s a b
  unfold Model.Ring.setOwner at hl ⊢
  -- the last write of `setOwner` is the one to `a`; the table it goes to is as long as the result, hence as `s`
  simp only [recs_length_setRec] at hl
  rw [owner_setRec, hl, if_pos ⟨rfl, ha⟩]

theorem ownersOK_setOwner {s : St} {a b : Nat} (hg : OwnersOK s) (hne : a ≠ b) (hb : b < s.recs.length) :
    OwnersOK (setOwner s a b) :=
  ⟨acyc_setOwner hg.acyc hne, oir_setOwner a hg.oir hb⟩

theorem ownersOK_setNone {s : St} (r : Nat) (hg : OwnersOK s) :
    OwnersOK (s.setRec r { s.getRec r with owner := none }) :=
  ⟨acyc_setOwnerField hg.acyc (fun o ho => by cases ho), oir_setOwnerField r hg.oir (fun o ho => by cases ho)⟩

theorem reach_fresh {s : St} {n : Nat} (hO : ∀ x o, ow s x = some o → o ≠ n) {x : Nat}
    (h : Reach (ow s) x n) : x = n := by
  induction h with
  | refl x => rfl
  | step ho _ ih =>
    have := ih hO
    subst this
    exact absurd rfl (hO _ _ ho)

theorem prevHot_spec {s : St} {e k : Nat} (h : prevHot s e = some k) : k < e ∧ (s.recOf k).isSome = true := by
  unfold prevHot at h
  have h1 := List.find?_some h
  have h2 := List.mem_of_find?_eq_some h
  simp at h2
  exact ⟨h2, h1⟩

theorem ownersOK_minOwner {s1 : St} {n : Nat} {o : Option Nat} (t : Bool) (hlen : s1.recs.length = n + 1)
    (hA : Acyc (ow s1)) (hO : ∀ x o, ow s1 x = some o → o < n)
    (hk : ∀ k, o = some k → ∃ pr, s1.recOf k = some pr ∧ pr < n) : OwnersOK (minOwner t s1 n o) := by
  have hg0 : OwnersOK s1 := ⟨hA, fun x o hx => by have := hO x o hx; omega⟩
  unfold minOwner
  split
  · next k =>
    obtain ⟨pr, hpr, hprn⟩ := hk k rfl
    simp only [hpr, Option.getD_some]
    cases t with
    | true =>
      simp only [↓reduceIte]
      exact ownersOK_setRec_same (setOwner_owner_self pr (by omega)).symm
        (ownersOK_setOwner hg0 (by omega) (by omega))
    | false =>
      simp only [Bool.false_eq_true, ↓reduceIte]
      refine ⟨acyc_setOwnerField hg0.acyc fun o ho hR => ?_, oir_setOwnerField n hg0.oir ?_⟩
      · cases ho
        have := reach_fresh (fun x o hx => by have := hO x o hx; omega) hR
        omega
      · intro o ho
        cases ho
        omega
  · exact ownersOK_setNone n hg0

theorem ownersOK_addLocalMinPoly {s : St} {e1 e2 : Nat} (p : Point64) (isNew t : Bool) (hi : Inv s) (hg : OwnersOK s)
    (h12 : e1 < e2) : OwnersOK (addLocalMinPoly s e1 e2 p isNew t) := by
  obtain ⟨a, b, -, hs'⟩ := addLocalMinPoly_eq s e1 e2 p isNew t
  rw [hs']
  have how : ow (minStart s e1 e2) = ow s := funext fun y => by rw [ow, getRec_minStart, ow]
  refine ownersOK_setRec_same rfl (ownersOK_minOwner _ (by simp) (how ▸ hg.acyc) ?_ ?_)
  · intro x o hx
    rw [how] at hx
    exact hg.oir x o hx
  · intro k hk
    obtain ⟨hlt, hsome⟩ := prevHot_spec hk
    have hrec : (minStart s e1 e2).recOf k = s.recOf k := by
      unfold minStart
      rw [recOf_setEdge, if_neg (fun h => by omega), recOf_setEdge, if_neg (fun h => by omega)]
      rfl
    rw [hrec] at hsome ⊢
    obtain ⟨pr, hpr⟩ := Option.isSome_iff_exists.mp hsome
    exact ⟨pr, hpr, hi.lt hpr⟩

theorem sameOwn_uncouple (s : St) (e : Nat) : SameOwn s (uncouple s e) := by
  refine ⟨(length_uncouple s e).1, fun r => ?_⟩
  unfold uncouple ow
  split
  · rfl
  · simp only []
    rw [owner_setRec_same]
    · split <;> split <;> rfl
    · rfl

theorem ownersOK_joinOutrecPaths {s s' : St} {e1 e2 r1 r2 : Nat} (hg : OwnersOK s) (hr1 : s.recOf e1 = some r1)
    (hr2 : s.recOf e2 = some r2) (hne : r1 ≠ r2) (hl1 : r1 < s.recs.length)
    (h : joinOutrecPaths s e1 e2 = some s') : OwnersOK s' := by
  have hj := joinOutrecPaths_spec hr1 hr2 hne rfl h
  obtain ⟨s0, hl0, ho0, ho'⟩ := hj.owner
  exact ownersOK_sameOwn ⟨by rw [hj.recs_length, recs_length_setOwner, hl0], ho'⟩
    (ownersOK_setOwner (ownersOK_sameOwn ⟨hl0, ho0⟩ hg) (Ne.symm hne) (hl0 ▸ hl1))

theorem ownersOK_maxOwner {s : St} {r : Nat} {o : Option Nat} (t : Bool) (hg : OwnersOK s)
    (hk : ∀ k, o = some k → ∃ pr, s.recOf k = some pr ∧ r ≠ pr ∧ pr < s.recs.length) :
    OwnersOK (maxOwner t s r o) := by
  unfold maxOwner
  split
  · split
    · exact ownersOK_setNone r hg
    · next k =>
      obtain ⟨pr, hpr, hne, hlt⟩ := hk k rfl
      rw [hpr]
      exact ownersOK_setOwner hg hne hlt
  · exact hg

theorem ownersOK_addLocalMaxPoly {s : St} {e1 e2 : Nat} {p : Point64} {t : Bool} {s' : St} (hi : Inv s)
    (hg : OwnersOK s) (h12 : e1 < e2) (hh1 : (s.recOf e1).isSome) (hh2 : (s.recOf e2).isSome)
    (h : addLocalMaxPoly s e1 e2 p t = some s') : OwnersOK s' := by
  obtain ⟨r1, hr1⟩ := Option.isSome_iff_exists.mp hh1
  obtain ⟨r2, hr2⟩ := Option.isSome_iff_exists.mp hh2
  rw [addLocalMaxPoly_eq hi hr1 hr2] at h
  generalize addPtRing _ _ p = res at h
  have hg1 : OwnersOK (s.setRec r1 { s.getRec r1 with pts := res.1 }) := ownersOK_setRec_same rfl hg
  split at h
  · cases h
    exact ownersOK_sameOwn (show SameOwn s _ from ⟨rfl, fun _ => rfl⟩) hg
  dsimp only at h
  split at h
  · next h12' =>
    subst h12'
    cases h
    refine ownersOK_sameOwn (sameOwn_uncouple _ e1)
      (ownersOK_maxOwner t (ownersOK_setRec_same rfl hg1) fun k hk => ?_)
    obtain ⟨hlt, hsome⟩ := prevHot_spec hk
    obtain ⟨pr, hpr⟩ := Option.isSome_iff_exists.mp hsome
    refine ⟨pr, hpr, ?_, by simpa using hi.lt hpr⟩
    rintro rfl
    -- were `pr` the record that is closed, the three edges `k < e1 < e2` would name it
    rcases (hi r1).three hpr hr1 hr2 with h | h | h <;> omega
  · next hne =>
    have hl1 := hi.lt hr1
    have hl2 := hi.lt hr2
    split at h
    · exact ownersOK_joinOutrecPaths hg1 hr1 hr2 hne (by simpa using hl1) h
    · exact ownersOK_joinOutrecPaths hg1 hr2 hr1 (Ne.symm hne) (by simpa using hl2) h

theorem sameOwn_swapOutrecs (s : St) (e1 e2 : Nat) : SameOwn s (swapOutrecs s e1 e2) := by
  unfold swapOutrecs
  simp only []
  split
  · exact sameOwn_setRec rfl
  · refine SameOwn.trans ?_ ((sameOwn_setEdge _ _ _).trans (sameOwn_setEdge _ _ _))
    have hrs (sx : St) (r a b : Nat) : SameOwn sx (sx.setRec r (replaceSide (sx.getRec r) a b)) := by
      apply sameOwn_setRec
      unfold replaceSide
      split <;> rfl
    cases s.recOf e1 <;> cases s.recOf e2 <;> simp only []
    · exact SameOwn.refl s
    · exact hrs _ _ _ _
    · exact hrs _ _ _ _
    · exact (hrs _ _ _ _).trans (hrs _ _ _ _)

theorem ownersOK_step {t : Bool} {s s' : St} {op : Op} (hi : Inv s) (hg : OwnersOK s) (hv : validB s op = true)
    (ho : orderedB op = true) (h : step t s op = some s') : OwnersOK s' := by
  cases op with
  | min e1 e2 p isNew =>
    simp only [orderedB, decide_eq_true_eq] at ho
    simp only [step, Option.some.injEq] at h
    subst h
    exact ownersOK_addLocalMinPoly p isNew t hi hg ho
  | pt e p =>
    simp only [validB, Bool.and_eq_true, decide_eq_true_eq] at hv
    obtain ⟨r, hr⟩ := Option.isSome_iff_exists.mp hv.2
    simp only [step, addOutPt_eq hr ((hi r).pts_ne e hr), Option.map_some, Option.some.injEq] at h
    subst h
    exact ownersOK_sameOwn (sameOwn_setRec rfl) hg
  | max e1 e2 p =>
    simp only [orderedB, decide_eq_true_eq] at ho
    simp only [validB, Bool.and_eq_true, decide_eq_true_eq, bne_iff_ne, ne_eq] at hv
    obtain ⟨⟨⟨⟨h1, h2⟩, hne⟩, hc1⟩, hc2⟩ := hv
    exact ownersOK_addLocalMaxPoly hi hg ho hc1 hc2 h
  | swap e1 e2 =>
    simp only [step, Option.some.injEq] at h
    subst h
    exact ownersOK_sameOwn (sameOwn_swapOutrecs s e1 e2) hg

theorem reachable_of_reachableO {t : Bool} {n : Nat} {s : St} (h : ReachableO t n s) : Reachable t n s := by
  induction h with
  | init => exact Reachable.init
  | step s s' op _ hv _ hs ih => exact Reachable.step s s' op ih hv hs

theorem ownersOK_init (n : Nat) : OwnersOK { edgeRec := List.replicate n none } := by
  have hget (r : Nat) : ({ edgeRec := List.replicate n none } : St).getRec r = {} := by
    simp [St.getRec]
  exact ⟨fun a b hab => (by rw [ow, hget] at hab; cases hab), fun x o hx => by rw [ow, hget] at hx; cases hx⟩

theorem reachableO_ownersOK {t : Bool} {n : Nat} {s : St} (h : ReachableO t n s) : OwnersOK s := by
  induction h with
  | init => exact ownersOK_init n
  | step s s' op hr hv ho hs ih =>
    have hinv := (reachable_spec t n s (reachable_of_reachableO hr)).1
    exact ownersOK_step hinv ih hv ho hs

end Proofs.RingOwner
