import ClipVerif.Model.RectPoly
import ClipVerif.Proofs.C06
import ClipVerif.Proofs.Dedup
import ClipVerif.Proofs.Basic
/- The two rectangle-clipping state machines (Props/C06.lean, Props/C11.lean).  Both build their
   result by `rAdd` alone, of points from a few sources (`LineProv`, `PolyProvWeak`); so whatever
   `rAdd` of such points preserves holds of the result (`executeLine_inv`, `executePoly_spec`).
   The `if`s of the model functions are taken apart by `iteInduction` with that property as motive,
   one per `if` in the order of the definition: `split` would abstract each condition out of these
   large terms, which is slow to check. -/
namespace Proofs.Rect
open Gen Model

theorem rAdd_cases {Q : Results → Prop} (res : Results) (pt : Point64) (b : Bool)
    (same : Q res) (new : Q (res ++ [[pt]]))
    (ext : ∀ p, res.getLast? = some p → p.getLast? ≠ some pt → Q (res.dropLast ++ [p ++ [pt]])) :
    Q (rAdd res pt b) := by
  unfold rAdd
  refine iteInduction (fun _ => new) fun _ => ?_
  cases h : res.getLast? with
  | none => exact new
  | some p => exact iteInduction (fun _ => same) fun hne => ext p h hne

theorem forall_rAdd {Q : List Point64 → Prop} (res : Results) (pt : Point64) (b : Bool)
    (h : ∀ ring ∈ res, Q ring) (h1 : Q [pt])
    (hext : ∀ p, Q p → p.getLast? ≠ some pt → Q (p ++ [pt])) : ∀ ring ∈ rAdd res pt b, Q ring := by
  refine rAdd_cases (Q := fun r => ∀ ring ∈ r, Q ring) res pt b h ?_ fun p hl hne => ?_
  · exact List.forall_mem_append.2 ⟨h, List.forall_mem_singleton.2 h1⟩
  · exact List.forall_mem_append.2 ⟨fun ring hr => h ring (List.dropLast_subset _ hr),
      List.forall_mem_singleton.2 (hext p (h p (List.mem_of_getLast? hl)) hne)⟩

theorem getIntersection_cases {Q : Point64 × Bool × Int → Prop} (rp : Array Point64)
    (p p2 : Point64) (loc : Int) (miss : Q (⟨0, 0⟩, false, loc))
    (hit : ∀ a b l, a < 4 → b < 4 → (getSegmentIntersection p p2 rp[a]! rp[b]!).2 = true →
      Q ((getSegmentIntersection p p2 rp[a]! rp[b]!).1, true, l)) :
    Q (getIntersection rp p p2 loc) := by
  unfold getIntersection
  extract_lets seg none_
  -- read the last test `if !found then none_ else hit` as `if found then hit else none_`
  simp only [Bool.not_eq_true', Bool.eq_false_iff, ite_not]
  have h03 {l} := hit 0 3 l (by decide) (by decide)
  have h01 {l} := hit 0 1 l (by decide) (by decide)
  have h12 {l} := hit 1 2 l (by decide) (by decide)
  have h23 {l} := hit 2 3 l (by decide) (by decide)
  -- every state tries sides in turn and returns the first hit; a guard may end the search
  have side {c : Prop} [Decidable c] {x y} (hx : c → Q x) (hy : Q y) : Q (if c then x else y) :=
    iteInduction hx fun _ => hy
  -- `loc` is Left, Right, Top, Bottom, or else Inside
  refine iteInduction (fun _ => ?_) fun _ => iteInduction (fun _ => ?_) fun _ =>
    iteInduction (fun _ => ?_) fun _ => iteInduction (fun _ => ?_) fun _ => ?_
  · exact side h03 (side (h01 ·.2) (side h23 miss))
  · exact side h12 (side (h01 ·.2) (side h23 miss))
  · exact side h01 (side (h03 ·.2) (side (fun _ => miss) (side h12 miss)))
  · exact side h23 (side (h03 ·.2) (side (fun _ => miss) (side h12 miss)))
  · exact side h03 (side h01 (side h12 (side h23 miss)))

/-- `C11.LineProvenance`, where a point of a result path of the line machine comes from (Props
    imports this file, so the definition is repeated here) -/
def LineProv (rect : Rect64) (path : Array Point64) (q : Point64) : Prop :=
  (q ∈ path.toList ∧ rect.left ≤ q.X ∧ q.X ≤ rect.right ∧ rect.top ≤ q.Y ∧ q.Y ≤ rect.bottom) ∨
  (∃ a ∈ path.toList, ∃ b ∈ path.toList, ∃ c ∈ Rect64_AsPath rect, ∃ d ∈ Rect64_AsPath rect,
    (getSegmentIntersection a b c d).2 = true ∧ q = (getSegmentIntersection a b c d).1)

/-- provenance of a point of a raw ring of the polygon machine, weaker than `C06.PolyProvenance`:
    besides its three origins the point may be the zero point `⟨0, 0⟩`.  With coordinates large enough
    to overflow `CrossProduct` the machine emits `getIntersection`'s failure value, or indexes the
    corners with location Inside (`rp[4]!` in the model). -/
def PolyProvWeak (rect : Rect64) (path : Array Point64) (q : Point64) : Prop :=
  ((q ∈ path.toList ∧ rect.left ≤ q.X ∧ q.X ≤ rect.right ∧ rect.top ≤ q.Y ∧ q.Y ≤ rect.bottom) ∨
    q ∈ Rect64_AsPath rect ∨
    (∃ a ∈ path.toList, ∃ b ∈ path.toList, ∃ c ∈ Rect64_AsPath rect, ∃ d ∈ Rect64_AsPath rect,
      (getSegmentIntersection a b c d).2 = true ∧ q = (getSegmentIntersection a b c d).1)) ∨
  q = ⟨0, 0⟩

theorem PolyProvWeak.of_line {rect : Rect64} {path : Array Point64} {q : Point64}
    (h : LineProv rect path q) : PolyProvWeak rect path q :=
  Or.inl (h.elim Or.inl fun h => Or.inr (Or.inr h))

theorem rp_mem (rect : Rect64) (n : Nat) (hn : n < 4) :
    (Rect64_AsPath rect).toArray[n]! ∈ Rect64_AsPath rect :=
  Array.getElem!_mem_toList (Rect64_AsPath rect).toArray n hn

/-- a corner index out of range (location Inside) yields the zero point -/
theorem PolyProvWeak.corner (rect : Rect64) (path : Array Point64) (n : Nat) :
    PolyProvWeak rect path (Rect64_AsPath rect).toArray[n]! :=
  if hn : n < 4 then Or.inl (Or.inr (Or.inl (rp_mem rect n hn))) else Or.inr (getElem!_neg _ _ hn)

theorem getIntersection_prov (rect : Rect64) {path : Array Point64} {p p2 : Point64}
    (hp : p ∈ path.toList) (hp2 : p2 ∈ path.toList) (loc : Int) :
    ((getIntersection (Rect64_AsPath rect).toArray p p2 loc).2.1 = true →
      LineProv rect path (getIntersection (Rect64_AsPath rect).toArray p p2 loc).1) ∧
    PolyProvWeak rect path (getIntersection (Rect64_AsPath rect).toArray p p2 loc).1 := by
  refine getIntersection_cases
    (Q := fun v => (v.2.1 = true → LineProv rect path v.1) ∧ PolyProvWeak rect path v.1)
    _ p p2 loc ⟨nofun, Or.inr rfl⟩ fun a b _ ha hb hs => ?_
  have : LineProv rect path (getSegmentIntersection p p2 _ _).1 :=
    Or.inr ⟨p, hp, p2, hp2, _, rp_mem rect a ha, _, rp_mem rect b hb, hs, rfl⟩
  -- reduce the projections of the triple first: `exact` would unfold `getSegmentIntersection` to
  -- compare them, which is slow
  dsimp only
  exact ⟨fun _ => this, .of_line this⟩

section Line
variable {I : Results → Prop} {rect : Rect64} {path : Array Point64}
  (hadd : ∀ ⦃res pt b⦄, I res → LineProv rect path pt → I (rAdd res pt b))
  {highI : Nat} (hhi : highI < path.size)

include hadd hhi in
theorem insideRun_inv (f : Nat) {i : Nat} {res : Results} (h : I res) :
    I (insideRun rect path highI f i res).2.2 := by
  induction f generalizing i res with
  | zero => exact h
  | succ f ih =>
    unfold insideRun
    simp only [apply_ite Prod.snd]
    refine iteInduction (fun hi => ?_) fun _ => h
    refine iteInduction (fun _ => h) fun h1 => iteInduction (fun _ => h) fun h2 =>
      iteInduction (fun _ => h) fun h3 => iteInduction (fun _ => h) fun h4 =>
      ih (hadd h (Or.inl ⟨Array.getElem!_mem_toList path i (by omega), ?_⟩))
    exact ⟨Int64.not_lt.1 h1, Int64.not_lt.1 h2, Int64.not_lt.1 h4, Int64.not_lt.1 h3⟩

include hadd hhi in
/-- outside the rectangle `getNextLocation` only moves on; inside it is `insideRun` -/
theorem nextLocation_inv (loc : Int) (i : Nat) (res : Results) (h : I res) :
    I (nextLocation rect path highI loc i res).2.2 := by
  unfold nextLocation
  -- on a side the results are `res` whatever the tests say
  simp only [apply_ite Prod.snd, ite_self]
  exact iteInduction (fun _ => h) fun _ => iteInduction (fun _ => h) fun _ =>
    iteInduction (fun _ => h) fun _ => iteInduction (fun _ => h) fun _ =>
    iteInduction (fun _ => insideRun_inv hadd hhi _ h) fun _ => h

include hadd hhi in
theorem lineLoop_inv (f : Nat) {loc : Int} {i : Nat} {res : Results} (h : I res) :
    I (lineLoop rect (Rect64_AsPath rect).toArray path highI f loc i res) := by
  induction f generalizing loc i res with
  | zero => exact h
  | succ f ih =>
    unfold lineLoop
    refine iteInduction (fun _ => ?_) fun _ => h
    have h1 := nextLocation_inv hadd hhi loc i res h
    generalize nextLocation rect path highI loc i res = nl at h1 ⊢
    obtain ⟨loc', i', res'⟩ := nl
    dsimp only at h1 ⊢
    refine iteInduction (fun _ => h1) fun hi' => ?_
    have hm : path[i']! ∈ path.toList := Array.getElem!_mem_toList path _ (by omega)
    have hm' : path[i' - 1]! ∈ path.toList := Array.getElem!_mem_toList path _ (by omega)
    refine iteInduction (fun _ => ih h1) fun hok => ?_
    have hip := (getIntersection_prov rect hm hm' loc').1 (by simpa using hok)
    refine iteInduction (fun _ => ih (hadd h1 hip)) fun _ =>
      iteInduction (fun _ => ?_) fun _ => ih (hadd h1 hip)
    refine ih (iteInduction (fun hok2 => ?_) fun _ => h1)
    exact hadd (hadd h1 ((getIntersection_prov rect hm' hm loc).1 hok2)) hip

end Line

/-- a loop `for c i { i++ }` has seen `c` hold at every index it went past -/
theorem findOff_all {c : Nat → Prop} [DecidablePred c] {α : Type} {l : List α} (i0 k : Nat)
    (h1 : i0 ≤ k) (h2 : k < l.foldl (fun i _ => if c i then i + 1 else i) i0) : c k := by
  induction l generalizing i0 with
  | nil => exact absurd h2 (Nat.not_lt.2 h1)
  | cons _ l ih =>
    rw [List.foldl_cons] at h2
    by_cases hc : c i0
    · rw [if_pos hc] at h2
      exact if hk : k = i0 then hk ▸ hc else ih _ (by omega) h2
    · rw [if_neg hc] at h2
      exact ih _ h1 h2

theorem executeLine_inv (I : Results → Prop) (rect : Rect64) (path : Array Point64)
    (hadd : ∀ ⦃res pt b⦄, I res → LineProv rect path pt → I (rAdd res pt b)) (hnil : I []) :
    I (executeLine rect path) := by
  unfold executeLine
  refine iteInduction (fun _ => hnil) fun hsz => ?_
  obtain ⟨h2, he⟩ : 2 ≤ path.size ∧ Rect64_IsEmpty rect = false := by simpa using hsz
  have hw : rect.left ≤ rect.right ∧ rect.top ≤ rect.bottom := by
    have := mt (Proofs.C06.isEmpty_iff rect).2 (ne_true_of_eq_false he)
    simp only [Int64.le_iff_toInt_le] at this ⊢
    omega
  -- a vertex flagged on the boundary or located Inside is in the closed rectangle
  have hb (k : Nat) (hk : k < path.size)
      (h : (getLocation rect path[k]!).2 = false ∨ (getLocation rect path[k]!).1 = C_Inside) :
      LineProv rect path path[k]! :=
    Or.inl ⟨Array.getElem!_mem_toList path k hk, Proofs.C06.getLocation_inRect rect _ hw h⟩
  extract_lets rp highI l0 findOff j prev start
  -- the first vertex is emitted at once if the machine starts Inside
  have first {loc : Int} (h0 : loc = C_Inside → LineProv rect path path[0]!) :
      I (if loc = C_Inside then rAdd [] path[0]! false else []) :=
    iteInduction (fun hl => hadd hnil (h0 hl)) fun _ => hnil
  by_cases hl0 : l0.2 = true
  · rw [show start = some (l0.1, 1) from if_neg (by simp [hl0])]
    exact lineLoop_inv hadd (by omega) _ (first fun hl => hb 0 (by omega) (Or.inr hl))
  -- the first vertex is on the boundary
  have hl0 : l0.2 = false := by simpa using hl0
  by_cases hoff : j > highI
  · -- and so are all others: the path is returned as it is
    rw [show start = none from (if_pos (by simp [hl0])).trans (if_pos hoff)]
    have hprov := (Array.forall_mem_toList path).2 fun k hk => hb k hk <| Or.inl <|
      if hk0 : k = 0 then hk0 ▸ hl0 else by
        simpa using (findOff_all 1 k (by omega) (Nat.lt_of_le_of_lt (by omega) hoff)).2
    exact List.foldlRecOn _ _ hnil fun res h pt hpt => hadd h (hprov pt hpt)
  · rw [show start = some (_, 1) from (if_pos (by simp [hl0])).trans (if_neg hoff)]
    exact lineLoop_inv hadd (by omega) _ (first fun _ => hb 0 (by omega) (Or.inl hl0))

section Poly
variable {I : Results → Prop} {rect : Rect64} {path : Array Point64}
  (hadd : ∀ ⦃res pt b⦄, I res → PolyProvWeak rect path pt → I (rAdd res pt b))

include hadd in
theorem addCorner_inv {res : Results} {loc : Int} {cw : Bool} (h : I res) :
    I (addCorner (Rect64_AsPath rect).toArray res loc cw).1 := by
  unfold addCorner
  split <;> exact hadd h (.corner ..)

include hadd in
theorem addCornersUntil_inv {cw : Bool} {target : Int} (f : Nat) {res : Results} {prev : Int}
    (h : I res) : I (addCornersUntil (Rect64_AsPath rect).toArray cw target f res prev).1 := by
  induction f generalizing res prev with
  | zero => exact h
  | succ f ih =>
    unfold addCornersUntil
    dsimp only
    split
    · exact addCorner_inv hadd h
    · exact ih (addCorner_inv hadd h)

include hadd in
theorem addCornerLocation_inv {res : Results} {prev curr : Int} (h : I res) :
    I (addCornerLocation (Rect64_AsPath rect).toArray res prev curr) := by
  unfold addCornerLocation
  split <;> exact hadd h (.corner ..)

include hadd in
theorem polyLoop_inv {highI : Nat} (hhi : highI < path.size) (mp : Point64) (f : Nat) {s : PolySt}
    (h : I s.res) : I (polyLoop rect (Rect64_AsPath rect).toArray path mp highI f s).res := by
  induction f generalizing s with
  | zero => exact h
  | succ f ih =>
    unfold polyLoop
    let Q (v : PolySt) : Prop := I v.res
    show Q _
    refine iteInduction (fun _ => ?_) fun _ => h  -- `s.i ≤ highI`
    extract_lets prev prevCrossLoc
    have h1 := nextLocation_inv (fun _ _ _ h hp => hadd h (.of_line hp)) hhi s.loc s.i s.res h
    generalize nextLocation rect path highI s.loc s.i s.res = nl at h1 ⊢
    obtain ⟨loc, i, res⟩ := nl
    dsimp only at h1 ⊢
    refine iteInduction (fun _ => h1) fun hi => ?_  -- `i > highI`
    have hcur : path[i]! ∈ path.toList := Array.getElem!_mem_toList path i (by omega)
    have hprev : (if i = 0 then path[highI]! else path[i - 1]!) ∈ path.toList := by
      split <;> exact Array.getElem!_mem_toList path _ (by omega)
    -- the machine also uses the point of a failed `getIntersection`
    have hip := (getIntersection_prov rect hcur hprev loc).2
    have hip2 := (getIntersection_prov rect hprev hcur prev).2
    have h2 {c : Prop} [Decidable c] {l l' : Int} :
        I (if c then addCornerLocation _ res l l' else res) :=
      iteInduction (fun _ => addCornerLocation_inv hadd h1) fun _ => h1
    -- the body of `polyLoop` by cases `!ok`, `loc = C_Inside`, `prev ≠ C_Inside`, else; within the first
    -- `prevCrossLoc = C_Inside`, `prev ≠ C_Inside ∧ prev ≠ loc`, within the second `s.firstCross = C_Inside`,
    -- `prev ≠ crossingLoc`, within the third `ip = ip2`
    refine iteInduction (fun _ => ?_) fun _ => iteInduction (fun _ => ?_) fun _ =>
      iteInduction (fun _ => ?_) fun _ => ih (hadd h1 hip)
    · exact iteInduction (fun _ => ih h1) fun _ =>
        iteInduction (fun _ => ih (addCornersUntil_inv hadd 5 h1)) fun _ => ih h1
    · exact iteInduction (fun _ => ih (hadd h1 hip)) fun _ =>
        iteInduction (fun _ => ih (hadd (addCornersUntil_inv hadd 5 h1) hip)) fun _ =>
          ih (hadd h1 hip)
    · exact iteInduction (fun _ => ih (addCornerLocation_inv hadd (hadd h2 hip2))) fun _ =>
        ih (hadd (hadd h2 hip2) hip)

variable (I rect path) in
include hadd in
/-- what `executePoly` returns: nothing exactly when every vertex of a path that is looked at is
    flagged on the boundary, and otherwise rings built by `rAdd` -/
theorem executePoly_spec (hnil : I []) :
    (executePoly rect path = none ↔ (3 ≤ path.size ∧ Rect64_IsEmpty rect = false ∧
      ∀ p ∈ path.toList, (getLocation rect p).2 = false)) ∧
    ∀ rings, executePoly rect path = some rings → I rings := by
  unfold executePoly
  let Q (v : Option Results) : Prop :=
    (v = none ↔ (3 ≤ path.size ∧ Rect64_IsEmpty rect = false ∧
      ∀ p ∈ path.toList, (getLocation rect p).2 = false)) ∧ ∀ rings, v = some rings → I rings
  show Q _
  refine iteInduction (fun hsz => ?_) fun hsz => ?_
  · exact ⟨⟨nofun, fun ⟨h3, he, _⟩ => hsz.elim (by omega) (by simp [he])⟩,
      fun _ e => Option.some.inj e ▸ hnil⟩
  obtain ⟨h3, he⟩ : 3 ≤ path.size ∧ Rect64_IsEmpty rect = false := by simpa using hsz
  extract_lets rp mp highI l0 back start
  have hback : back = none ↔ ∀ k < highI, (getLocation rect path[k]!).2 = false := by
    simp [back]
  have hS : start = none ↔ ∀ p ∈ path.toList, (getLocation rect p).2 = false := by
    have : start = none ↔ l0.2 = false ∧ back = none := by
      show (if _ then _ else _) = none ↔ _
      cases l0.2 <;> cases back <;> simp
    rw [this, hback, Array.forall_mem_toList]
    exact ⟨fun ⟨h0, hb⟩ k hk => if e : k = highI then e ▸ h0 else hb k (by omega),
      fun h => ⟨h highI (by omega), fun k hk => h k (by omega)⟩⟩
  clear_value start
  rcases start with _ | startingLoc
  · exact ⟨⟨fun _ => ⟨h3, he, hS.1 rfl⟩, fun _ => rfl⟩, nofun⟩
  have some_ {r : Results} (hr : I r) : Q (some r) :=
    ⟨⟨nofun, fun ⟨_, _, hall⟩ => nomatch hS.2 hall⟩, fun _ e => Option.some.inj e ▸ hr⟩
  dsimp -zeta only
  extract_lets s cw
  have hs : I s.res := polyLoop_inv hadd (by omega) mp _ hnil
  clear_value s
  -- after the loop `executePoly` tests `s.firstCross = C_Inside` (within it `startingLoc = C_Inside`, then
  -- whether the path contains the rectangle: only then are the four corners added), else
  -- `s.loc ≠ C_Inside ∧ …` (within it `s.startLocs.length > 0`, `acc.2 = loc2` under the fold, and
  -- `loc ≠ s.firstCross`)
  refine iteInduction (fun _ => ?_) fun _ => iteInduction (fun _ => ?_) fun _ => some_ hs
  · exact iteInduction (fun _ => some_ hs) fun _ => iteInduction (fun _ => some_ hs) fun _ =>
      some_ (List.foldlRecOn _ _ hs fun res h _ _ => hadd h (.corner ..))
  · -- the corners between the start locations, then up to the first crossing
    generalize hx : (if s.startLocs.length > 0 then _ else (s.res, s.loc)) = x
    let J (v : Results × Int) : Prop := I v.1
    have hfold : J x := by
      rw [← hx]
      exact iteInduction (fun _ => List.foldlRecOn (motive := J) _ _ hs fun acc h loc2 _ =>
        iteInduction (fun _ => h) fun _ => addCorner_inv hadd h) fun _ => hs
    exact iteInduction (fun _ => some_ (addCorner_inv hadd hfold)) fun _ => some_ hfold

end Poly

theorem executePoly_fault_iff (rect : Rect64) (path : Array Point64) :
    executePoly rect path = none ↔
      (3 ≤ path.size ∧ Rect64_IsEmpty rect = false ∧ ∀ p ∈ path.toList, (getLocation rect p).2 = false) :=
  (executePoly_spec (fun _ => True) rect path (fun _ _ _ _ _ => trivial) trivial).1

/-- the invariant behind the four results of Props/C06.lean and Props/C11.lean about result paths:
    no equal neighbours, and every point from a source `P` -/
theorem paths_rAdd (P : Point64 → Prop) ⦃res : Results⦄ ⦃pt : Point64⦄ ⦃b : Bool⦄
    (h : ∀ ring ∈ res, Dedup.NoAdj ring ∧ ∀ q ∈ ring, P q) (hp : P pt) :
    ∀ ring ∈ rAdd res pt b, Dedup.NoAdj ring ∧ ∀ q ∈ ring, P q :=
  forall_rAdd res pt b h ⟨trivial, List.forall_mem_singleton.2 hp⟩ fun _ h hl =>
    ⟨Dedup.NoAdj.concat_iff.2 ⟨h.1, hl⟩,
      List.forall_mem_append.2 ⟨h.2, List.forall_mem_singleton.2 hp⟩⟩

theorem rectClipLines_min_two (rect : Rect64) (paths : List (List Point64)) :
    ∀ q ∈ rectClipLines rect paths, 2 ≤ q.length := by
  intro q hq
  -- whatever is returned has passed the filter on the length
  simp only [rectClipLines, List.mem_ite_nil_left, List.mem_flatMap, List.mem_filter] at hq
  obtain ⟨_, _, _, _, _, _, h⟩ := hq
  simpa using h

end Proofs.Rect
