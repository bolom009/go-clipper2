import ClipVerif.Proofs.C16b
import ClipVerif.Proofs.Basic
/-
C16c — `Model.simplifyPath` looks at the points of the path only through `dist`, and only at indices
in range: two paths with the same table `dist p[i] p[j] p[k]` get the same flags.  In particular
mapping the path through any `f` that preserves `dist` leaves all flags unchanged, and the output is
the mapped output (that the indices are in range matters here: `path[i]!` out of range is `default`,
and `f default` need not be `default`).
-/
namespace Proofs.C16c
open Gen Model Proofs.C16 Proofs.C16b

section
variable {D : Type} {dist : Point64 → Point64 → Point64 → D} {p p' : Array Point64} {high : Nat}
  (hd : ∀ i j k, i ≤ high → j ≤ high → k ≤ high → dist p'[i]! p'[j]! p'[k]! = dist p[i]! p[j]! p[k]!)
  {closed : Bool} {s : SimpState D}
include hd

theorem remove_congr (hW : W high s) {r : Nat} (hr : Ret s.flags high r)
    (hne : getNext r high s.flags ≠ getPrior r high s.flags) :
    remove dist p' closed high s (getPrior r high s.flags) r =
      remove dist p closed high s (getPrior r high s.flags) r := by
  obtain ⟨ha, hb, -, hbr⟩ := neighbours hr hne
  have hp2 := (getPrior_spec ha.1 ⟨r, hr⟩).1.1
  have hn2 := (getNext_spec hb.1 ⟨_, ret_flag (by have := hW.hf; omega) hb hbr⟩).1.1
  simp only [remove]
  rw [hd _ _ _ hb.1 ha.1 hn2, hd _ _ _ ha.1 hp2 hb.1]

variable [Inhabited D] [LE D] [DecidableRel (α := D) (· ≤ ·)] [LT D] [DecidableRel (α := D) (· < ·)] {epsSq : D}

theorem simplifyStep_congr (hW : W high s) :
    simplifyStep dist p' epsSq closed high s = simplifyStep dist p epsSq closed high s := by
  rw [simplifyStep_eq, simplifyStep_eq]
  cases hq : pick epsSq high s with
  | none => rfl
  | some q =>
    obtain ⟨hr, hne, ha⟩ := pick_some hW hq
    show some (remove dist p' closed high s q.1 q.2) = some (remove dist p closed high s q.1 q.2)
    rw [ha, remove_congr hd hW hr hne]

theorem simplifyLoop_congr (fuel : Nat) (hW : W high s) :
    simplifyLoop dist p' epsSq closed high fuel s = simplifyLoop dist p epsSq closed high fuel s := by
  induction fuel generalizing s with
  | zero => rfl
  | succ n ih =>
    unfold simplifyLoop
    rw [simplifyStep_congr hd hW]
    cases hs : simplifyStep dist p epsSq closed high s with
    | none => rfl
    | some s' => exact ih (simplifyStep_W hW hs)

end

variable {D : Type} [Inhabited D] [LE D] [DecidableRel (α := D) (· ≤ ·)] [LT D] [DecidableRel (α := D) (· < ·)]

theorem simplifyFinal_congr (dist : Point64 → Point64 → Point64 → D) (maxD : D) (p p' : Array Point64) (epsSq : D)
    (closed : Bool) (hl : 4 ≤ p.size) (hsz : p'.size = p.size)
    (hd : ∀ i j k, i ≤ p.size - 1 → j ≤ p.size - 1 → k ≤ p.size - 1 →
      dist p'[i]! p'[j]! p'[k]! = dist p[i]! p[j]! p[k]!) :
    simplifyFinal dist maxD p' epsSq closed = simplifyFinal dist maxD p epsSq closed := by
  unfold simplifyFinal
  rw [hsz, simplifyLoop_congr hd _ ⟨by simp; omega, Nat.zero_le _, Array.getElem!_replicate_default _ _⟩]
  congr 2
  apply Array.map_congr_left
  intro i hi
  have hi' : i < p.size := by simpa using hi
  by_cases h0 : i = 0
  · rw [if_pos h0, if_pos h0, hd 0 (p.size - 1) 1 (Nat.zero_le _) (Nat.le_refl _) (by omega)]
  · by_cases hh : i = p.size - 1
    · rw [if_neg h0, if_neg h0, if_pos hh, if_pos hh,
        hd (p.size - 1) 0 (p.size - 1 - 1) (Nat.le_refl _) (Nat.zero_le _) (Nat.sub_le _ _)]
    · rw [if_neg h0, if_neg h0, if_neg hh, if_neg hh, hd i (i - 1) (i + 1) (by omega) (by omega) (by omega)]

theorem simplify_map (dist : Point64 → Point64 → Point64 → D) (maxD : D) (path : Array Point64) (epsSq : D)
    (closed : Bool) (f : Point64 → Point64) (hf : ∀ a b c, dist (f a) (f b) (f c) = dist a b c) :
    simplifyPath dist maxD (path.map f) epsSq closed = (simplifyPath dist maxD path epsSq closed).map f := by
  unfold simplifyPath
  simp only [Array.size_map]
  split
  · rfl
  · next hl =>
    rw [simplifyFinal_congr dist maxD path (path.map f) epsSq closed (by omega) (by simp) fun i j k hi hj hk => by
      rw [Array.getElem!_map path f (by omega), Array.getElem!_map path f (by omega),
        Array.getElem!_map path f (by omega), hf]]
    generalize simplifyFinal dist maxD path epsSq closed = s
    apply Array.toList_inj.mp
    rw [Array.toList_map, Array.toList_filterMap, Array.toList_filterMap, List.map_filterMap]
    apply List.filterMap_congr
    intro i hi
    have hi' : i < path.size := by simpa using hi
    rw [Array.getElem!_map path f hi']
    cases s.flags[i]! <;> rfl

end Proofs.C16c
