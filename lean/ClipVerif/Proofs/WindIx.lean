import ClipVerif.Proofs.Wind
/- The decision table of `intersectEdges` keeps "hot ↔ contributing". The table is read as a function
   `hotB` of the Booleans it looks at. On edges with the right counts those Booleans, and the
   contribution tests before and after, are all expressions in `Wind.inside` of four prefixes
   (`edgeOK_features`, `contributing_of_edgeOK`); what is left is a finite statement about Booleans,
   checked by evaluation (`hotB_same`, `hotB_diff`). -/
namespace Proofs.WindIx
open Gen Spec Model Proofs.C01 Proofs.Wind

/-- the hot flags `intersectDecide` leaves, as a function of what it looks at: per edge whether the
    normalised own count is 0 (`z`) or 1 (`o`) and whether the other type is filled (`v`) -/
def hotB (ct p1 p2 : Nat) (z1 o1 z2 o2 v1 v2 hot1 hot2 : Bool) : Bool × Bool :=
  if (!hot1 && !(z1 || o1)) || (!hot2 && !(z2 || o2)) then (hot1, hot2)
  else if hot1 && hot2 then
    if !(z1 || o1) || !(z2 || o2) || (p1 != p2 && ct != C_Xor) then (false, false) else (true, true)
  else if hot1 then (false, true)
  else if hot2 then (true, false)
  else if p1 != p2 then (true, true)
  else if o1 && o2 then
    if (if ct = C_Union then !(v1 && v2)
        else if ct = C_Difference then (p1 == C_Clip && v1 && v2) || (p1 == C_Subject && !v1 && !v2)
        else if ct = C_Xor then true else !(!v1 || !v2))
    then (true, true) else (false, false)
  else (false, false)

theorem intersectDecide_fst (ct fr : Nat) (e1 e2 : Active) (h1 h2 f sm : Bool) :
    (intersectDecide ct fr e1 e2 h1 h2 f sm).1 = (intersectWind fr e1 e2).1 := by
  simp only [intersectDecide, apply_ite Prod.fst, ite_self]

theorem intersectDecide_snd (ct fr : Nat) (e1 e2 : Active) (h1 h2 f sm : Bool) :
    (intersectDecide ct fr e1 e2 h1 h2 f sm).2.1 = (intersectWind fr e1 e2).2 := by
  simp only [intersectDecide, apply_ite Prod.snd, apply_ite Prod.fst, ite_self]

theorem intersectDecide_hot (ct fr : Nat) (e1 e2 : Active) (h1 h2 f sm : Bool) :
    (intersectDecide ct fr e1 e2 h1 h2 f sm).2.2.2 =
      hotB ct (getPolyType (intersectWind fr e1 e2).1) (getPolyType (intersectWind fr e1 e2).2)
        (decide (normCount fr (intersectWind fr e1 e2).1.windCount = 0))
        (decide (normCount fr (intersectWind fr e1 e2).1.windCount = 1))
        (decide (normCount fr (intersectWind fr e1 e2).2.windCount = 0))
        (decide (normCount fr (intersectWind fr e1 e2).2.windCount = 1))
        (engFilled fr (intersectWind fr e1 e2).1.windCount2)
        (engFilled fr (intersectWind fr e1 e2).2.windCount2) h1 h2 := by
  have hle : ∀ x : Int, decide (x ≤ 0) = !decide (0 < x) := by
    intro x; simp only [← Int.not_lt, decide_not]
  -- both sides become the same tree of tests
  simp only [intersectDecide, hotB, engFilled, apply_ite Prod.snd, ite_self, hle, Bool.decide_or,
    gt_iff_lt, Bool.and_eq_true, decide_eq_true_eq]
  rfl

/-- one type. `A`, `B`, `C`: the type filled left of both edges, between them, right of both;
    `B'`: between them once they have changed places -/
theorem hotB_same {ct p : Nat} (hct : ct = 1 ∨ ct = 2 ∨ ct = 3 ∨ ct = 4) (hp : p = 0 ∨ p = 1) :
    ∀ (A B B' C v : Bool), (B = B' ∨ A = C) →
    hotB ct p p false (B' != C) false (A != B') v v
        ((A != B) && otherLets ct p v) ((B != C) && otherLets ct p v) =
      ((B' != C) && otherLets ct p v, (A != B') && otherLets ct p v) := by
  rcases hct with rfl | rfl | rfl | rfl <;> rcases hp with rfl | rfl <;> decide

/-- two types. `x…` = own-type fillings of edge 1 (left, right), `y…` = those of edge 2 -/
theorem hotB_diff {ct p1 p2 : Nat} (hct : ct = 1 ∨ ct = 2 ∨ ct = 3 ∨ ct = 4)
    (hp1 : p1 = 0 ∨ p1 = 1) (hp2 : 1 - p1 = p2) :
    ∀ (xL xR yL yR : Bool),
    hotB ct p1 p2 false (xL != xR) false (yL != yR) yR xL
        ((xL != xR) && otherLets ct p1 yL) ((yL != yR) && otherLets ct p2 xR) =
      ((xL != xR) && otherLets ct p1 yR, (yL != yR) && otherLets ct p2 xL) := by
  subst hp2
  rcases hct with rfl | rfl | rfl | rfl <;> rcases hp1 with rfl | rfl <;> decide

theorem hot_after {ct fr : Nat} {pre : List Active} {e1 e2 : Active} (front1 same : Bool)
    (hct : ct = 1 ∨ ct = 2 ∨ ct = 3 ∨ ct = 4) (hfr : fr ≤ 3)
    (h1w : WF e1) (h2w : WF e2)
    (h1c : isOpen e1 = false) (h2c : isOpen e2 = false)
    (h1 : EdgeOK fr pre e1) (h2 : EdgeOK fr (pre ++ [e1]) e2) :
    (intersectDecide ct fr e1 e2 (clipperBase_isContributingClosed (mkEng ct fr) e1)
      (clipperBase_isContributingClosed (mkEng ct fr) e2) front1 same).2.2.2 =
    (clipperBase_isContributingClosed (mkEng ct fr) (intersectWind fr e1 e2).1,
     clipperBase_isContributingClosed (mkEng ct fr) (intersectWind fr e1 e2).2) := by
  obtain ⟨hC2, hC1⟩ := intersectWind_correct fr pre e1 e2 h1w h2w h1c h2c h1 h2
  obtain ⟨hd1, hl1, hd2, hl2⟩ := intersectWind_frame fr e1 e2
  rw [intersectDecide_hot]
  generalize (intersectWind fr e1 e2).1 = a1 at *
  generalize (intersectWind fr e1 e2).2 = a2 at *
  have t1 : getPolyType a1 = getPolyType e1 := getPolyType_congr hl1
  have t2 : getPolyType a2 = getPolyType e2 := getPolyType_congr hl2
  have c1 : isOpen a1 = false := (isOpen_congr hl1).trans h1c
  have c2 : isOpen a2 = false := (isOpen_congr hl2).trans h2c
  have w1 : WF a1 := WF_congr hd1 hl1 h1w
  have w2 : WF a2 := WF_congr hd2 hl2 h2w
  -- to the prefixes the new edges look like the old ones in the other order
  have q2 : PEq (pre ++ [a2]) (pre ++ [e2]) := (PEq.refl pre).append (PEq_single hd2 hl2)
  have q12 : PEq (pre ++ [a2] ++ [a1]) (pre ++ [e1] ++ [e2]) := by
    rw [List.append_assoc, List.append_assoc]
    exact (PEq.refl pre).append
      (((PEq_single hd2 hl2).append (PEq_single hd1 hl1)).trans (PEq_swap e2 e1))
  -- everything the table looks at, and the four contribution tests, through `inside`
  obtain ⟨z1, o1, v1⟩ := edgeOK_features hfr w1 c1 hC1
  obtain ⟨z2, o2, v2⟩ := edgeOK_features hfr w2 c2 hC2
  rw [z1, o1, v1, z2, o2, v2, contributing_of_edgeOK ct hfr h1w h1c h1,
    contributing_of_edgeOK ct hfr h2w h2c h2, contributing_of_edgeOK ct hfr w1 c1 hC1,
    contributing_of_edgeOK ct hfr w2 c2 hC2, t1, t2]
  simp only [inside, kept_congr fr _ q12, kept_congr fr _ q2]
  by_cases hp : getPolyType e1 = getPolyType e2
  · -- one type: neither edge is seen by the other type's count
    have n1 : isClosedOf (1 - getPolyType e2) e1 = false := hp ▸ isClosedOf_other h1w
    rw [hp, kept_snoc_other n1, kept_snoc_other (isClosedOf_other h2w)]
    exact hotB_same hct h2w.2
      (A := inside fr (getPolyType e2) pre) (B := inside fr (getPolyType e2) (pre ++ [e1]))
      (B' := inside fr (getPolyType e2) (pre ++ [e2]))
      (C := inside fr (getPolyType e2) (pre ++ [e1] ++ [e2])) (v := inside fr (1 - getPolyType e2) pre)
      ((kept_same_type fr _ pre (closed_localMin_eq h1c h2c hp) h1w.1 h2w.1).imp
        (congrArg (engFilled fr)) (congrArg (engFilled fr)))
  · -- two types: each edge is invisible to the other's own count
    obtain ⟨s1, s2⟩ : 1 - getPolyType e1 = getPolyType e2 ∧ 1 - getPolyType e2 = getPolyType e1 := by
      have := h1w.2; have := h2w.2; omega
    have n1 : isClosedOf (getPolyType e2) e1 = false := isClosedOf_ne hp
    have n2 : isClosedOf (getPolyType e1) e2 = false := isClosedOf_ne (Ne.symm hp)
    rw [s1, s2, kept_swap_last fr (getPolyType e2), kept_snoc_other (l := pre ++ [e1]) n2,
      kept_snoc_other n2, kept_snoc_other (l := pre ++ [e2]) n1, kept_snoc_other n1]
    exact hotB_diff hct h1w.2 s1
      (xL := inside fr (getPolyType e1) pre) (xR := inside fr (getPolyType e1) (pre ++ [e1]))
      (yL := inside fr (getPolyType e2) pre) (yR := inside fr (getPolyType e2) (pre ++ [e2]))

theorem intersect_keeps_hot_iff_contributing (ct fr : Nat) (pre : List Active) (e1 e2 : Active)
    (front1 same : Bool)
    (hct : ct = 1 ∨ ct = 2 ∨ ct = 3 ∨ ct = 4) (hfr : fr ≤ 3)
    (h1w : WF e1) (h2w : WF e2)
    (h1c : isOpen e1 = false) (h2c : isOpen e2 = false)
    (h1 : EdgeOK fr pre e1) (h2 : EdgeOK fr (pre ++ [e1]) e2) :
    let r := intersectDecide ct fr e1 e2
      (clipperBase_isContributingClosed (mkEng ct fr) e1)
      (clipperBase_isContributingClosed (mkEng ct fr) e2) front1 same
    r.2.2.2.1 = clipperBase_isContributingClosed (mkEng ct fr) r.1 ∧
    r.2.2.2.2 = clipperBase_isContributingClosed (mkEng ct fr) r.2.1 := by
  intro r
  have h := hot_after front1 same hct hfr h1w h2w h1c h2c h1 h2
  rw [intersectDecide_fst, intersectDecide_snd]
  exact ⟨congrArg Prod.fst h, congrArg Prod.snd h⟩

end Proofs.WindIx
