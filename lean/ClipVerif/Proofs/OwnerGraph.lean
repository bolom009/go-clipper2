/-
Owner graphs: every node has at most one link (`ow : Nat → Option Nat`, the `owner` pointer of an output
record).  Chains along the links, graphs without a cycle, what redirecting one link does to both, the
search along a chain with bounded fuel, and the bound on the length of a chain in an acyclic graph whose
linked nodes lie below `n`.
-/
namespace Proofs.OwnerGraph

/-- `c` is on the owner chain that starts at `a` (reflexive) -/
inductive Reach (ow : Nat → Option Nat) : Nat → Nat → Prop
  | refl (a : Nat) : Reach ow a a
  | step {a b c : Nat} : ow a = some b → Reach ow b c → Reach ow a c

def Acyc (ow : Nat → Option Nat) : Prop := ∀ a b, ow a = some b → ¬ Reach ow b a

/-- redirect the link of `x` to `w` (not `Model.AelPtr.upd`, which has the same body: this file knows no model) -/
def upd (ow : Nat → Option Nat) (x : Nat) (w : Option Nat) : Nat → Option Nat :=
  fun y => if y = x then w else ow y

/-- the chain from `o` ends within `f` steps -/
def EndsIn (ow : Nat → Option Nat) : Nat → Option Nat → Prop
  | _, none => True
  | 0, some _ => False
  | f+1, some a => EndsIn ow f (ow a)

/-- the search for `x` along the chain from `o`, given up after `f` steps: `Model.Ring.onChain`, and the negation of
`Model.isValidOwner` -/
def finds (ow : Nat → Option Nat) (x : Nat) : Nat → Option Nat → Bool
  | 0, _ | _, none => false
  | f+1, some a => a == x || finds ow x f (ow a)

section
variable {ow : Nat → Option Nat} {x a b c : Nat} {w : Option Nat}

theorem Reach.trans (h1 : Reach ow a b) (h2 : Reach ow b c) : Reach ow a c := by
  induction h1 with
  | refl => exact h2
  | step h _ ih => exact Reach.step h (ih h2)

theorem upd_same : upd ow x w x = w :=
  if_pos rfl

theorem upd_ne (h : a ≠ x) : upd ow x w a = ow a :=
  if_neg h

theorem reach_upd (h : Reach (upd ow x w) a c) :
    Reach ow a c ∨ (Reach ow a x ∧ ∃ z, w = some z ∧ Reach ow z c) := by
  induction h with
  | refl a => exact Or.inl (Reach.refl a)
  | @step a b c hab _ ih =>
    by_cases hax : a = x
    · subst hax
      rw [upd_same] at hab
      rcases ih with h | ⟨_, z, hz, hzc⟩
      · exact Or.inr ⟨Reach.refl _, b, hab, h⟩
      · exact Or.inr ⟨Reach.refl _, z, hz, hzc⟩
    · rw [upd_ne hax] at hab
      rcases ih with h | ⟨hbx, z, hz, hzc⟩
      · exact Or.inl (Reach.step hab h)
      · exact Or.inr ⟨Reach.step hab hbx, z, hz, hzc⟩

theorem acyc_upd (hA : Acyc ow) (hw : ∀ z, w = some z → ¬ Reach ow z x) : Acyc (upd ow x w) := by
  intro a b hab hba
  by_cases hax : a = x
  · subst hax
    rw [upd_same] at hab
    rcases reach_upd hba with h | ⟨h, _⟩
    · exact hw b hab h
    · exact hw b hab h
  · rw [upd_ne hax] at hab
    rcases reach_upd hba with h | ⟨hbx, z, hz, hza⟩
    · exact hA a b hab h
    · exact hw z hz (hza.trans (Reach.step hab hbx))

/-- what `setOwner` and `checkSplitOwner` do before they link `x` under `a` when `a` has `x` on its chain: `a` takes the
owner of `x` instead of its own -/
theorem acyc_cut (hA : Acyc ow) (hr : Reach ow a x) (hax : a ≠ x) :
    Acyc (upd ow a (ow x)) ∧ ¬ Reach (upd ow a (ow x)) a x := by
  have hw : ∀ z, ow x = some z → ¬ Reach ow z a := fun z hz hza => hA x z hz (hza.trans hr)
  refine ⟨acyc_upd hA hw, fun h => ?_⟩
  cases h with
  | refl => exact hax rfl
  | step hz hzx =>
    rw [upd_same] at hz
    rcases reach_upd hzx with h | ⟨h, _⟩
    · exact hA x _ hz h
    · exact hw _ hz h

theorem acyc_of_lt (h : ∀ a b, ow a = some b → b < a) : Acyc ow := by
  have hle {b a : Nat} (hr : Reach ow b a) : a ≤ b := by
    induction hr with
    | refl => exact Nat.le_refl _
    | step hab _ ih => exact Nat.le_trans ih (Nat.le_of_lt (h _ _ hab))
  exact fun a b hab hr => Nat.lt_irrefl a (Nat.lt_of_le_of_lt (hle hr) (h a b hab))

theorem endsIn_upd {f : Nat} {o : Option Nat}
    (hn : ∀ a, o = some a → ¬ Reach ow a x) (h : EndsIn ow f o) : EndsIn (upd ow x w) f o := by
  induction f generalizing o with
  | zero =>
    cases o with
    | none => trivial
    | some a => exact h.elim
  | succ f ih =>
    cases o with
    | none => trivial
    | some a =>
      have hax : a ≠ x := fun e => hn a rfl (e ▸ Reach.refl a)
      show EndsIn (upd ow x w) f (upd ow x w a)
      rw [upd_ne hax]
      exact ih (fun b hb hr => hn a rfl (Reach.step hb hr)) h

theorem endsIn_skip {o f : Nat} (hA : Acyc ow) (ho : ow x = some o) (he : EndsIn ow (f + 1) (some x)) :
    EndsIn (upd ow x (ow o)) f (some x) := by
  simp only [EndsIn] at he
  rw [ho] at he
  cases f with
  | zero => exact he.elim
  | succ f =>
    show EndsIn _ f (upd ow x (ow o) x)
    rw [upd_same]
    exact endsIn_upd (fun a ha hr => hA x o ho (Reach.step ha hr)) he

theorem reach_of_finds {f : Nat} (h : finds ow x f (some a) = true) : Reach ow a x := by
  induction f generalizing a with
  | zero => cases h
  | succ f ih =>
    rw [finds, Bool.or_eq_true, beq_iff_eq] at h
    rcases h with rfl | h
    · exact Reach.refl a
    · cases hb : ow a with
      | none => rw [hb] at h; cases f <;> cases h
      | some b => rw [hb] at h; exact Reach.step hb (ih h)

theorem finds_of_reach {f : Nat} (he : EndsIn ow f (some a)) (h : Reach ow a x) :
    finds ow x f (some a) = true := by
  induction f generalizing a with
  | zero => exact he.elim
  | succ f ih =>
    rw [finds, Bool.or_eq_true, beq_iff_eq]
    cases h with
    | refl => exact Or.inl rfl
    | step hb hr =>
      rw [EndsIn, hb] at he
      rw [hb]
      exact Or.inr (ih he hr)

end

section
open Classical

noncomputable def cnt (n : Nat) (p : Nat → Prop) : Nat :=
  (List.range n).countP (fun y => decide (p y))

theorem cnt_le (n : Nat) (p : Nat → Prop) : cnt n p ≤ n :=
  Nat.le_trans List.countP_le_length (Nat.le_of_eq List.length_range)

theorem cnt_lt {n : Nat} {p q : Nat → Prop} (h : ∀ y, p y → q y) {b : Nat} (hb : b < n) (hq : q b)
    (hp : ¬ p b) : cnt n p < cnt n q := by
  obtain ⟨l1, l2, e⟩ := List.append_of_mem (List.mem_range.2 hb)
  have mono : ∀ l : List Nat, l.countP (fun y => decide (p y)) ≤ l.countP (fun y => decide (q y)) :=
    fun l => List.countP_mono_left (fun y _ hy => decide_eq_true (h y (of_decide_eq_true hy)))
  unfold cnt
  rw [e, List.countP_append, List.countP_append, List.countP_cons, List.countP_cons,
    decide_eq_true hq, decide_eq_false hp]
  have := mono l1
  have := mono l2
  simp only [if_true, Bool.false_eq_true, if_false]
  omega

end

theorem endsIn_of_acyc {ow : Nat → Option Nat} {n : Nat} (hA : Acyc ow)
    (hR : ∀ a b, ow a = some b → a < n) (a : Nat) : EndsIn ow (n + 1) (some a) := by
  -- the number of nodes on the chain from `b`, `cnt n (Reach ow b)`, goes down with every link: `b` is on its own
  -- chain and, the graph being acyclic, not on the chain from its owner
  have key (k : Nat) (o : Option Nat) (h : ∀ b, o = some b → cnt n (Reach ow b) < k) : EndsIn ow k o := by
    induction k generalizing o with
    | zero =>
      cases o with
      | none => trivial
      | some b => exact absurd (h b rfl) (Nat.not_lt_zero _)
    | succ k ih =>
      cases o with
      | none => trivial
      | some b =>
        refine ih (ow b) (fun c hc => ?_)
        have := cnt_lt (n := n) (p := Reach ow c) (q := Reach ow b) (fun y hy => Reach.step hc hy)
          (hR b c hc) (Reach.refl b) (hA b c hc)
        have := h b rfl
        omega
  exact key (n + 1) (some a) (fun b _ => Nat.lt_succ_of_le (cnt_le n _))

end Proofs.OwnerGraph
