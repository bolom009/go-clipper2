import ClipVerif.Proofs.C16
import ClipVerif.Proofs.Basic
/-
C16b — post-condition of the `SimplifyPath` removal loop (`Model.simplifyFinal`): the loop invariant
(`Inv`: the `dsq` cache holds the distance of every retained vertex from the line through its retained
neighbours), its preservation by a step, and the exit analysis.
-/
namespace Proofs.C16b
open Gen Model Proofs.C16

theorem next_prior {fl : Array Bool} {high c : Nat} (hc : c ≤ high) (uc : fl[c]! = false) :
    getNext (getPrior c high fl) high fl = c :=
  Proofs.C16.next_prior ⟨hc, uc⟩

section
variable {D : Type} {dist : Point64 → Point64 → Point64 → D} {path : Array Point64} {closed : Bool}
  {high : Nat} {s : SimpState D}

theorem remove_W (hW : W high s) {r : Nat} (hr : Ret s.flags high r)
    (hne : getNext r high s.flags ≠ getPrior r high s.flags) (a : Nat) :
    W high (remove dist path closed high s a r) := by
  obtain ⟨-, hb, -, hbr⟩ := neighbours hr hne
  exact ⟨by simp [remove, hW.hf], ret_flag (by have := hW.hf; omega) hb hbr⟩

variable [Inhabited D]

structure Inv (dist : Point64 → Point64 → Point64 → D) (path : Array Point64) (closed : Bool) (high : Nat)
    (s : SimpState D) : Prop extends W high s where
  hd : s.dsq.size = high + 1
  hdsq : ∀ i : Nat, Ret s.flags high i → (closed = true ∨ (i ≠ 0 ∧ i ≠ high)) →
    s.dsq[i]! = dist path[i]! path[getPrior i high s.flags]! path[getNext i high s.flags]!

/-- the update of `a` is the later of the two in `remove`, hence the outer `if` here -/
theorem dsq_remove {a r : Nat} (ha : a < s.dsq.size) (hb : getNext r high s.flags < s.dsq.size) (i : Nat) :
    (remove dist path closed high s a r).dsq[i]! =
      if (closed = true ∨ (a ≠ 0 ∧ a ≠ high)) ∧ i = a then
        dist path[a]! path[getPrior a high s.flags]! path[getNext r high s.flags]!
      else if (closed = true ∨ (getNext r high s.flags ≠ high ∧ getNext r high s.flags ≠ 0)) ∧
          i = getNext r high s.flags then
        dist path[getNext r high s.flags]! path[a]! path[getNext (getNext r high s.flags) high (s.flags.set! r true)]!
      else s.dsq[i]! := by
  simp only [remove]
  rw [get_ite_set! _ _ _ _ _ (by rw [size_ite_set!]; exact ha), get_ite_set! _ _ _ _ _ hb]
  simp only [Bool.or_eq_true, Bool.and_eq_true, bne_iff_ne]

theorem inv_remove (hI : Inv dist path closed high s) {r : Nat} (hr : Ret s.flags high r)
    (hne : getNext r high s.flags ≠ getPrior r high s.flags) :
    Inv dist path closed high (remove dist path closed high s (getPrior r high s.flags) r) := by
  obtain ⟨ha, hb, -, hbr⟩ := neighbours hr hne
  have hsz := hI.hf
  have hd := hI.hd
  refine ⟨remove_W hI.toW hr hne _, ?_, ?_⟩
  · simp only [remove]; rw [size_ite_set!, size_ite_set!]; exact hd
  · intro i ⟨hi, ui⟩ hcl
    obtain ⟨hir, ui0⟩ := (set_true_false (by omega)).1 ui
    have hi0 : Ret s.flags high i := ⟨hi, ui0⟩
    -- with `a`, `b` the prior and the next of `r`: `r` is the next of `a` only and the prior of `b` only
    have han := Proofs.C16.next_prior hr
    have hbp := prior_next hr
    have hna : ∀ {j}, Ret s.flags high j → j ≠ getPrior r high s.flags → getNext j high s.flags ≠ r :=
      fun hj hja e => hja (by rw [← e, prior_next hj])
    have hpb : ∀ {j}, Ret s.flags high j → j ≠ getNext r high s.flags → getPrior j high s.flags ≠ r :=
      fun hj hjb e => hjb (by rw [← e, Proofs.C16.next_prior hj])
    rw [dsq_remove (by omega) (by omega)]
    show _ = dist path[i]! path[getPrior i high (s.flags.set! r true)]! path[getNext i high (s.flags.set! r true)]!
    -- the neighbours of `i` and of `b` after the removal, from those before
    rw [getPrior_flag hsz hr.1 hi0 hir, getNext_flag hsz hr.1 hi0 hir, getNext_flag hsz hr.1 hb hbr,
      if_neg (hna hb hne)]
    generalize getPrior r high s.flags = a at *
    generalize getNext r high s.flags = b at *
    by_cases hia : i = a
    · -- its next was `r` and is now `b`; its prior is not `r`, as `a ≠ b`
      subst hia
      rw [if_pos ⟨hcl, rfl⟩, han, if_pos rfl, if_neg (hpb hi0 (Ne.symm hne))]
    · rw [if_neg (fun h => hia h.2), if_neg (hna hi0 hia)]
      by_cases hib : i = b
      · -- its prior was `r` and is now `a`
        subst hib
        rw [if_pos ⟨hcl.imp_right And.symm, rfl⟩, hbp, if_pos rfl]
      · rw [if_neg (fun h => hib h.2), if_neg (hpb hi0 hib)]
        exact hI.hdsq i hi0 hcl

end

section
variable {D : Type} [Inhabited D] [LE D] [DecidableRel (α := D) (· ≤ ·)]

/-- cyclic distance from `c` forward to `start` among the indices `0..high`, in `1..high+1` -/
def cdist (start high c : Nat) : Nat := if c < start then start - c else start + (high + 1) - c

theorem cdist_spec (start high c : Nat) (hc : c ≤ high) :
    (c < start ∧ cdist start high c + c = start) ∨ (start ≤ c ∧ cdist start high c + c = start + (high + 1)) := by
  unfold cdist
  split <;> omega

/-- a scan from `c` that comes back to `start` empty-handed has looked at every retained `j` ahead of `c` -/
theorem go_none {epsSq : D} {high : Nat} {s : SimpState D} {start j fuel c : Nat} (hst : Ret s.flags high start)
    (hj : Ret s.flags high j) (hc : c ≤ high) (hd : cdist start high c < fuel)
    (hlt : cdist start high j < cdist start high c)
    (h : simplifyStep.go epsSq high s start c fuel = none) : ¬ (s.dsq[j]! ≤ epsSq) := by
  induction fuel generalizing c with
  | zero => omega
  | succ f ih =>
    unfold simplifyStep.go at h
    simp only at h
    obtain ⟨⟨hn, -⟩, hg⟩ := getNext_spec hc ⟨start, hst⟩
    generalize getNext c high s.flags = c' at h hn hg
    -- no retained index lies between `c` and `c'`, and `j`, `start` are retained (`start` is ahead of no
    -- index, so `j ≠ start`): `c'` is not yet `start`, and `j` is `c'` or still ahead of it
    have key : c' ≠ start ∧ cdist start high c' < cdist start high c ∧
        (j = c' ∨ cdist start high j < cdist start high c') := by
      have := hg start hst
      have := hg j hj
      have := cdist_spec start high c hc
      have := cdist_spec start high c' hn
      have := cdist_spec start high j hj.1
      omega
    rw [if_neg key.1] at h
    split at h
    · contradiction
    · next hgt =>
      rcases key.2.2 with e | hlt'
      · subst e; exact hgt
      · exact ih hn (by omega) hlt' h

variable [LT D] [DecidableRel (α := D) (· < ·)]

theorem scan_none {epsSq : D} {high : Nat} {s : SimpState D} (hW : W high s)
    (htot : ∀ a : D, epsSq < a ↔ ¬ (a ≤ epsSq)) (h : scanOf epsSq high s = none) :
    ∀ j : Nat, Ret s.flags high j → ¬ (s.dsq[j]! ≤ epsSq) := by
  unfold scanOf at h
  split at h
  · next hlt =>
    intro j hj
    by_cases e : j = s.curr
    · subst e; exact (htot _).1 hlt
    · have h0 := hW.hc.1
      have h1 := cdist_spec s.curr high s.curr h0
      have h2 := cdist_spec s.curr high j hj.1
      exact go_none hW.hc hj h0 (by omega) (by omega) h
  · contradiction

end

theorem count_flag {fl : Array Bool} {r : Nat} (hr : r < fl.size) (ur : fl[r]! = false) :
    (fl.set! r true).count false + 1 = fl.count false := by
  have e : fl[r] = false := by rw [getElem!_pos fl r hr] at ur; exact ur
  have : 0 < fl.count false := Array.count_pos_iff.2 (e ▸ Array.getElem_mem hr)
  have : fl.set! r true = fl.set r true hr := by
    simp [Array.set!_eq_setIfInBounds, Array.setIfInBounds, hr]
  rw [this, Array.count_set hr, e]
  simp; omega

section
variable {D : Type} [Inhabited D] [LE D] [DecidableRel (α := D) (· ≤ ·)] [LT D] [DecidableRel (α := D) (· < ·)]
  {dist : Point64 → Point64 → Point64 → D} {path : Array Point64} {epsSq : D} {closed : Bool} {high : Nat}

theorem simplifyStep_some {s s' : SimpState D} (hW : W high s) (h : simplifyStep dist path epsSq closed high s = some s') :
    ∃ r, Ret s.flags high r ∧ getNext r high s.flags ≠ getPrior r high s.flags ∧
      s' = remove dist path closed high s (getPrior r high s.flags) r := by
  rw [simplifyStep_eq] at h
  obtain ⟨q, hq, rfl⟩ := Option.map_eq_some_iff.mp h
  obtain ⟨hr, hne, ha⟩ := pick_some hW hq
  exact ⟨q.2, hr, hne, by rw [ha]⟩

theorem simplifyStep_W {s s' : SimpState D} (hW : W high s) (h : simplifyStep dist path epsSq closed high s = some s') :
    W high s' := by
  obtain ⟨r, hr, hne, rfl⟩ := simplifyStep_some hW h
  exact remove_W hW hr hne _

theorem simplifyLoop_end {fuel : Nat} {s : SimpState D} (hI : Inv dist path closed high s)
    (hcnt : s.flags.count false ≤ fuel) :
    Inv dist path closed high (simplifyLoop dist path epsSq closed high fuel s) ∧
    simplifyStep dist path epsSq closed high (simplifyLoop dist path epsSq closed high fuel s) = none := by
  induction fuel generalizing s with
  | zero =>
    have := count_flag (by have := hI.hf; have := hI.hc.1; omega) hI.hc.2
    omega
  | succ f ih =>
    unfold simplifyLoop
    split
    · next hnone => exact ⟨hI, hnone⟩
    · next s' hsome =>
      obtain ⟨r, hr, hne, rfl⟩ := simplifyStep_some hI.toW hsome
      have := count_flag (by have := hI.hf; have := hr.1; omega) hr.2
      exact ih (inv_remove hI hr hne) (by simp only [remove]; omega)

theorem post_of_none {s : SimpState D} (hI : Inv dist path closed high s) (htot : ∀ a : D, epsSq < a ↔ ¬ (a ≤ epsSq))
    (hnone : simplifyStep dist path epsSq closed high s = none) {i : Nat} (hi : Ret s.flags high i)
    (hcl : closed = true ∨ (i ≠ 0 ∧ i ≠ high)) (hne : getNext i high s.flags ≠ getPrior i high s.flags) :
    ¬ (dist path[i]! path[getPrior i high s.flags]! path[getNext i high s.flags]! ≤ epsSq) := by
  rw [simplifyStep_eq, Option.map_eq_none_iff] at hnone
  rcases pick_none hI.toW hnone with hsc | ⟨c, hc, he⟩
  · rw [← hI.hdsq i hi hcl]
    exact scan_none hI.toW htot hsc i hi
  · exact absurd (two_left hc he hi) hne

end

theorem init_prior (l i : Nat) (hi : i ≤ l - 1) :
    getPrior i (l - 1) (Array.replicate l false) = if i = 0 then l - 1 else i - 1 := by
  refine getPrior_eq hi (fun j hj => ?_) ⟨by split <;> omega, Array.getElem!_replicate_default _ _⟩
  have := hj.1
  split <;> omega

theorem init_next (l i : Nat) (hi : i ≤ l - 1) :
    getNext i (l - 1) (Array.replicate l false) = if i = l - 1 then 0 else i + 1 := by
  refine getNext_eq hi (fun j hj => ?_) ⟨by split <;> omega, Array.getElem!_replicate_default _ _⟩
  have := hj.1
  split <;> omega

section
variable {D : Type} [Inhabited D] [LE D] [DecidableRel (α := D) (· ≤ ·)] [LT D] [DecidableRel (α := D) (· < ·)]

/-- `hsym`: the distance does not depend on the order of the two line points at the one place where the Go
    code swaps them (`dsq[high]` of a closed path) -/
theorem simplifyFinal_inv (dist : Point64 → Point64 → Point64 → D) (maxD : D) (path : Array Point64) (epsSq : D)
    (closed : Bool) (hl : 4 ≤ path.size)
    (hsym : closed = true → dist path[path.size - 1]! path[0]! path[path.size - 1 - 1]! =
      dist path[path.size - 1]! path[path.size - 1 - 1]! path[0]!) :
    Inv dist path closed (path.size - 1) (simplifyFinal dist maxD path epsSq closed) ∧
    simplifyStep dist path epsSq closed (path.size - 1) (simplifyFinal dist maxD path epsSq closed) = none := by
  unfold simplifyFinal
  simp only
  apply simplifyLoop_end
  · refine ⟨⟨by simp; omega, Nat.zero_le _, Array.getElem!_replicate_default _ _⟩, by simp; omega, ?_⟩
    intro i ⟨hi, _⟩ hcl
    simp only
    rw [init_prior _ i hi, init_next _ i hi, Array.getElem!_map_range _ i _ (by omega)]
    by_cases h0 : i = 0
    · subst h0
      rcases hcl with hc | hc
      · subst hc
        have : ¬ (0 = path.size - 1) := by omega
        simp [this]
      · exact absurd rfl hc.1
    · by_cases hh : i = path.size - 1
      · subst hh
        rcases hcl with hc | hc
        · simp only [if_neg h0, hc, if_true]
          exact hsym hc
        · exact absurd rfl hc.2
      · simp only [if_neg h0, if_neg hh]
  · simp

theorem simplify_post (dist : Point64 → Point64 → Point64 → D) (maxD : D) (path : Array Point64) (epsSq : D)
    (closed : Bool) (hl : 4 ≤ path.size) (htot : ∀ a : D, epsSq < a ↔ ¬ (a ≤ epsSq))
    (hsym : ∀ p a b, dist p a b = dist p b a) :
    let s := simplifyFinal dist maxD path epsSq closed
    let high := path.size - 1
    ∀ i, i ≤ high → s.flags[i]! = false → (closed = true ∨ (i ≠ 0 ∧ i ≠ high)) →
      getNext i high s.flags ≠ getPrior i high s.flags →
      ¬ (dist path[i]! path[getPrior i high s.flags]! path[getNext i high s.flags]! ≤ epsSq) := by
  intro s high i hi ui
  obtain ⟨hI, hnone⟩ := simplifyFinal_inv dist maxD path epsSq closed hl (fun _ => hsym _ _ _)
  exact post_of_none hI htot hnone ⟨hi, ui⟩

end

/- The symmetry hypothesis is needed: for a closed path the Go code initialises `dsq[high]` with the two
line points in the order (next, prior): `PerpendicDistFromLineSqr64(path[high], path[0], path[high-1])`.
With a distance that depends on that order the cached value says nothing about
`dist path[high] path[high-1] path[0]`. -/

def cexPath : Array Point64 := #[⟨0, 0⟩, ⟨10, 0⟩, ⟨10, 10⟩, ⟨0, 10⟩]

/-- depends on the order of the line points: `0` at `cexPath[3]` with `cexPath[2]` first (what the
    post-condition asks about), `1` with `cexPath[0]` first (what the Go code caches) -/
def cexDist (p a _b : Point64) : Nat :=
  if p.X = 0 ∧ p.Y = 10 ∧ a.X = 10 ∧ a.Y = 10 then 0 else 1

theorem cex_flags : (simplifyFinal cexDist 1000 cexPath 0 true).flags = #[false, false, false, false] := by
  decide +kernel

theorem needs_symmetry :
    ∃ (dist : Point64 → Point64 → Point64 → Nat) (maxD : Nat) (path : Array Point64) (epsSq : Nat) (closed : Bool),
      4 ≤ path.size ∧ (∀ a : Nat, epsSq < a ↔ ¬ (a ≤ epsSq)) ∧
      ¬ (let s := simplifyFinal dist maxD path epsSq closed
         let high := path.size - 1
         ∀ i, i ≤ high → s.flags[i]! = false → (closed = true ∨ (i ≠ 0 ∧ i ≠ high)) →
           getNext i high s.flags ≠ getPrior i high s.flags →
           ¬ (dist path[i]! path[getPrior i high s.flags]! path[getNext i high s.flags]! ≤ epsSq)) := by
  refine ⟨cexDist, 1000, cexPath, 0, true, by decide, fun a => by omega, ?_⟩
  intro h
  have h3 := h 3 (by decide) (by rw [cex_flags]; decide) (Or.inl rfl) (by rw [cex_flags]; decide +kernel)
  rw [cex_flags] at h3
  exact h3 (by decide +kernel)

end Proofs.C16b
