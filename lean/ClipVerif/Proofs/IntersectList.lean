import ClipVerif.Model.IntersectList
import ClipVerif.Proofs.Basic
/-
Proofs about `Model.Ix` (merge sort of `buildIntersectList`): the sorted edge list is the stable sort
of the AEL by x at the top of the scanbeam (read off `build_step`), and the intersect nodes are exactly the
inversions (`build_nodes`).

Both halves rest on one invariant of the sort, `Step`: merging adjacent runs permutes the edge list, keeps
the runs sorted, never lets an edge overtake one with the same x, and reports exactly the inversions (by
position, `pinv`) that it removes.  `merge` is a `Step`, `Step` is closed under doing two of them side by
side (`pass`) and one after the other (`sortRuns`).
-/
namespace Proofs.Ix
open Model.Ix

def Sorted (l : List E) : Prop := l.Pairwise (fun a b => a.2 ≤ b.2)

/-- the pairs one merge has to report: `a` in the left run, `b` in the right run, `b` strictly left of `a` -/
def cross (l r : List E) : List Node :=
  (l.map fun a => (r.filter fun b => decide (b.2 < a.2)).map fun b => (a.1, b.1)).flatten

abbrev Stab (a b : E) : Prop := a.2 = b.2 → a.1 < b.1

theorem Sorted.head_le {a : E} {l : List E} (h : Sorted (a :: l)) : ∀ x ∈ a :: l, a.2 ≤ x.2 :=
  List.Pairwise.head_rel h fun _ => Int.le_refl _

theorem Sorted.tail {a : E} {l : List E} (h : Sorted (a :: l)) : Sorted l := (List.pairwise_cons.1 h).2

theorem merge_perm (l r : List E) : (merge l r).1.Perm (l ++ r) := by
  fun_induction merge l r with
  | case1 r => simp
  | case2 a l => simp
  | case3 a l b r h res ih => exact (List.Perm.cons b ih).trans List.perm_middle.symm
  | case4 a l b r h res ih => exact List.Perm.cons a ih

theorem mem_merge {l r : List E} {x : E} : x ∈ (merge l r).1 ↔ x ∈ l ∨ x ∈ r := by
  rw [(merge_perm l r).mem_iff, List.mem_append]

/-- `merge` puts an edge of the right run only in front of edges strictly right of it, so the merged run
inherits every relation that holds inside the runs, from the left run to the right one, and between any
two edges the first of which is strictly left of the second -/
theorem merge_pairwise {R : E → E → Prop} (hR : ∀ a b : E, a.2 < b.2 → R a b) (l r : List E)
    (hl : Sorted l) (hr : Sorted r) (hRl : l.Pairwise R) (hRr : r.Pairwise R)
    (hlr : ∀ a ∈ l, ∀ b ∈ r, a.2 ≤ b.2 → R a b) : (merge l r).1.Pairwise R := by
  fun_induction merge l r with
  | case1 r => exact hRr
  | case2 a l => exact hRl
  | case3 a l b r h res ih =>
    rw [List.pairwise_cons] at hRr
    refine List.pairwise_cons.2 ⟨fun x hx => ?_,
      ih hl hr.tail hRl hRr.2 fun x hx y hy => hlr x hx y (List.mem_cons_of_mem _ hy)⟩
    rcases mem_merge.1 hx with hx | hx
    · exact hR b x (Int.lt_of_lt_of_le h (hl.head_le x hx))
    · exact hRr.1 x hx
  | case4 a l b r h res ih =>
    rw [List.pairwise_cons] at hRl
    refine List.pairwise_cons.2 ⟨fun x hx => ?_,
      ih hl.tail hr hRl.2 hRr fun x hx => hlr x (List.mem_cons_of_mem _ hx)⟩
    rcases mem_merge.1 hx with hx | hx
    · exact hRl.1 x hx
    · exact hlr a List.mem_cons_self x hx (Int.le_trans (Int.not_lt.1 h) (hr.head_le x hx))

theorem merge_sorted (l r : List E) (hl : Sorted l) (hr : Sorted r) : Sorted (merge l r).1 :=
  merge_pairwise (fun _ _ => Int.le_of_lt) l r hl hr hl hr fun _ _ _ _ h => h

theorem merge_stable (l r : List E) (hl : Sorted l) (hr : Sorted r) (h : (l ++ r).Pairwise Stab) :
    (merge l r).1.Pairwise Stab := by
  rw [List.pairwise_append] at h
  exact merge_pairwise (fun a b hab e => absurd e (Int.ne_of_lt hab)) l r hl hr h.1 h.2.1
    fun a ha b hb _ => h.2.2 a ha b hb

theorem cross_nil_left (r : List E) : cross [] r = [] := rfl

theorem cross_cons_left (a : E) (l r : List E) :
    cross (a :: l) r = ((r.filter fun b => decide (b.2 < a.2)).map fun b => (a.1, b.1)) ++ cross l r := by
  simp [cross]

theorem cross_nil_right (l : List E) : cross l [] = [] := by simp [cross]

theorem cross_cons_right_lt (b : E) (l r : List E) (h : ∀ a ∈ l, b.2 < a.2) :
    (cross l (b :: r)).Perm ((l.map fun t => (t.1, b.1)) ++ cross l r) := by
  induction l with
  | nil => exact List.Perm.refl _
  | cons a l ih =>
    rw [cross_cons_left, cross_cons_left, List.filter_cons_of_pos (by simpa using h a List.mem_cons_self)]
    simp only [List.map_cons, List.cons_append]
    exact (((ih fun x hx => h x (List.mem_cons_of_mem _ hx)).append_left _).trans
      (List.perm_append_comm_assoc ..)).cons _

theorem cross_cons_left_le (a : E) (l r : List E) (h : ∀ b ∈ r, a.2 ≤ b.2) :
    cross (a :: l) r = cross l r := by
  rw [cross_cons_left, List.filter_eq_nil_iff.2 fun b hb => by simpa using h b hb]
  rfl

theorem merge_nodes (l r : List E) (hl : Sorted l) (hr : Sorted r) : (merge l r).2.Perm (cross l r) := by
  fun_induction merge l r with
  | case1 r => exact List.Perm.refl _
  | case2 a l => rw [cross_nil_right]
  | case3 a l b r h res ih =>
    refine List.Perm.trans ?_
      (cross_cons_right_lt b (a :: l) r fun x hx => Int.lt_of_lt_of_le h (hl.head_le x hx)).symm
    exact ((List.reverse_perm _).map _).append (ih hl hr.tail)
  | case4 a l b r h res ih =>
    rw [cross_cons_left_le a l _ fun x hx => Int.le_trans (Int.not_lt.1 h) (hr.head_le x hx)]
    exact ih hl.tail hr

theorem cross_append_left (l1 l2 r : List E) : cross (l1 ++ l2) r = cross l1 r ++ cross l2 r := by
  simp [cross]

theorem cross_append_right (l r1 r2 : List E) : (cross l (r1 ++ r2)).Perm (cross l r1 ++ cross l r2) := by
  induction l with
  | nil => exact List.Perm.refl _
  | cons a l ih =>
    simp only [cross_cons_left, List.filter_append, List.map_append, List.append_assoc]
    exact ((ih.append_left _).trans (List.perm_append_comm_assoc ..)).append_left _

theorem cross_perm_left {l l' : List E} (r : List E) (h : l.Perm l') : (cross l r).Perm (cross l' r) :=
  (h.map _).flatten

theorem cross_perm_right (l : List E) {r r' : List E} (h : r.Perm r') : (cross l r).Perm (cross l r') := by
  induction l with
  | nil => exact List.Perm.refl _
  | cons a l ih =>
    simp only [cross_cons_left]
    exact ((h.filter _).map _).append ih

/-- the inversions of an edge list by position: `a` before `b` in the list, `b` strictly left of `a` -/
def pinv : List E → List Node
  | [] => []
  | a :: t => cross [a] t ++ pinv t

theorem pinv_append (l r : List E) : (pinv (l ++ r)).Perm (pinv l ++ (cross l r ++ pinv r)) := by
  induction l with
  | nil => exact List.Perm.refl _
  | cons a l ih =>
    simp only [List.cons_append, pinv, cross_cons_left, cross_nil_left, List.filter_append, List.map_append,
      List.append_nil, List.append_assoc]
    exact ((ih.append_left _).trans (List.perm_append_comm_assoc ..)).append_left _

theorem pinv_sorted {l : List E} (h : Sorted l) : pinv l = [] := by
  induction l with
  | nil => rfl
  | cons a l ih => rw [pinv, ih h.tail, cross_cons_left_le a [] l fun b hb => h.head_le b (List.mem_cons_of_mem _ hb)]; rfl

def AllSorted (runs : List (List E)) : Prop := ∀ r ∈ runs, Sorted r

/-- what the merging done so far has achieved: the runs `runs` have become the runs `runs'` and the nodes `ns`
have been reported -/
structure Step (runs runs' : List (List E)) (ns : List Node) : Prop where
  perm : runs'.flatten.Perm runs.flatten
  sorted : AllSorted runs'
  stable : runs.flatten.Pairwise Stab → runs'.flatten.Pairwise Stab
  nodes : (ns ++ pinv runs'.flatten).Perm (pinv runs.flatten)

theorem Step.refl {runs : List (List E)} (hs : AllSorted runs) : Step runs runs [] :=
  ⟨.refl _, hs, id, .refl _⟩

theorem Step.trans {a b c : List (List E)} {n₁ n₂ : List Node} (h₁ : Step a b n₁) (h₂ : Step b c n₂) :
    Step a c (n₁ ++ n₂) :=
  ⟨h₂.perm.trans h₁.perm, h₂.sorted, fun h => h₂.stable (h₁.stable h), by
    rw [List.append_assoc]; exact (h₂.nodes.append_left _).trans h₁.nodes⟩

theorem Step.append {a a' b b' : List (List E)} {n₁ n₂ : List Node} (h₁ : Step a a' n₁) (h₂ : Step b b' n₂) :
    Step (a ++ b) (a' ++ b') (n₁ ++ n₂) := by
  refine ⟨?_, fun r hr => (List.mem_append.1 hr).elim (h₁.sorted r) (h₂.sorted r), ?_, ?_⟩ <;>
    simp only [List.flatten_append, List.pairwise_append]
  · exact h₁.perm.append h₂.perm
  · exact fun h => ⟨h₁.stable h.1, h₂.stable h.2.1, fun x hx y hy =>
      h.2.2 x (h₁.perm.mem_iff.1 hx) y (h₂.perm.mem_iff.1 hy)⟩
  -- the inversions between the two groups of runs stay, those inside each group are accounted for
  have hc := (cross_perm_left b'.flatten h₁.perm).trans (cross_perm_right a.flatten h₂.perm)
  refine ((pinv_append _ _).append_left _).trans (List.Perm.trans ?_ (pinv_append _ _).symm)
  refine List.Perm.trans ?_ (h₁.nodes.append (hc.append h₂.nodes))
  exact List.perm_iff_count.2 fun x => by simp only [List.count_append]; omega

theorem Step.merge {l r : List E} (hl : Sorted l) (hr : Sorted r) : Step [l, r] [(merge l r).1] (merge l r).2 := by
  have hm := merge_sorted l r hl hr
  refine ⟨by simpa using merge_perm l r, by simpa [AllSorted] using hm,
    by simpa using merge_stable l r hl hr, ?_⟩
  have h := pinv_append l r
  rw [pinv_sorted hl, pinv_sorted hr, List.nil_append, List.append_nil] at h
  simpa [pinv_sorted hm] using (merge_nodes l r hl hr).trans h.symm

theorem pass_step (runs : List (List E)) (hs : AllSorted runs) : Step runs (pass runs).1 (pass runs).2 := by
  fun_induction pass runs with
  | case1 l r rest m ps ih =>
    exact (Step.merge (hs l (by simp)) (hs r (by simp))).append (ih fun y hy => hs y (by simp [hy]))
  | case2 runs h => exact .refl hs

theorem sortRuns_step (fuel : Nat) (runs : List (List E)) (hs : AllSorted runs) :
    Step runs (sortRuns fuel runs).1 (sortRuns fuel runs).2 := by
  fun_induction sortRuns fuel runs with
  | case1 runs => exact .refl hs
  | case2 fuel a b t p ih => exact (pass_step _ hs).trans (ih (pass_step _ hs).sorted)
  | case3 fuel runs h => exact .refl hs

theorem pass_length (runs : List (List E)) : (pass runs).1.length = (runs.length + 1) / 2 := by
  fun_induction pass runs with
  | case1 l r rest m ps ih =>
    have : ps.1.length = (rest.length + 1) / 2 := ih
    simp only [List.length_cons, this]; omega
  | case2 runs h =>
    match runs, h with
    | [], _ => rfl
    | [_], _ => simp
    | a :: b :: t, h => exact absurd rfl (h a b t)

/-- a sweep halves the number of runs, so as many sweeps as there are runs leave at most one -/
theorem sortRuns_length (fuel : Nat) (runs : List (List E)) (h : runs.length ≤ fuel + 1) :
    (sortRuns fuel runs).1.length ≤ 1 := by
  fun_induction sortRuns fuel runs with
  | case1 runs => exact h
  | case2 fuel a b t p ih =>
    apply ih
    rw [pass_length]
    omega
  | case3 fuel runs hne =>
    match runs, hne with
    | [], _ => exact Nat.zero_le _
    | [_], _ => exact Nat.le_refl _
    | a :: b :: t, hne => exact absurd rfl (hne a b t)

theorem flatten_singletons (L : List E) : (L.map fun e => [e]).flatten = L := by
  rw [← List.flatMap_def, List.flatMap_singleton']

theorem allSorted_singletons (L : List E) : AllSorted (L.map fun e => [e]) := by
  intro r hr
  rcases List.mem_map.1 hr with ⟨e, _, rfl⟩
  exact List.pairwise_singleton ..

theorem sorted_flatten {runs : List (List E)} (hs : AllSorted runs) (h : runs.length ≤ 1) :
    Sorted runs.flatten := by
  match runs, h with
  | [], _ => exact List.Pairwise.nil
  | [r], _ => simpa using hs r (by simp)

theorem index_eq (xs : List Int) : index xs = (List.range xs.length).map fun i => (i, xs[i]!) := by
  unfold index
  apply List.ext_getElem
  · simp
  · intro i h1 h2
    simp at h1
    simp [h1]

theorem index_increasing (xs : List Int) : (index xs).Pairwise (fun a b => a.1 < b.1) := by
  rw [index_eq, List.pairwise_map]
  exact List.pairwise_lt_range

/-- in a list whose edge indices increase, the inversions by position are the pairs `Model.Ix.inversions`
selects by index -/
theorem pinv_increasing (L : List E) (h : L.Pairwise (fun a b => a.1 < b.1)) :
    pinv L = (L.map fun a => (L.filter fun b => decide (a.1 < b.1) && decide (b.2 < a.2)).map
        fun b => (a.1, b.1)).flatten := by
  induction L with
  | nil => rfl
  | cons a rest ih =>
    rw [List.pairwise_cons] at h
    simp only [pinv, List.map_cons, List.flatten_cons, cross_cons_left, cross_nil_left, List.append_nil]
    congr 1
    · congr 1
      rw [List.filter_cons_of_neg (by simp)]
      exact List.filter_congr fun b hb => by simp [h.1 b hb]
    · rw [ih h.2]
      congr 1
      refine List.map_congr_left fun a' ha' => ?_
      have := h.1 a' ha'
      rw [List.filter_cons_of_neg (by simp; omega)]

theorem pinv_index (xs : List Int) : pinv (index xs) = inversions xs :=
  pinv_increasing _ (index_increasing xs)

/-- `build` is the sort taken from the runs of length one, and at most one run is left -/
theorem build_step (xs : List Int) : ∃ runs, runs.length ≤ 1 ∧ runs.flatten = (build xs).1 ∧
    Step ((index xs).map fun e => [e]) runs (build xs).2 := by
  have hs := allSorted_singletons (index xs)
  unfold build
  split
  · exact ⟨_, by simpa [index] using Nat.le_of_lt_succ ‹_›, flatten_singletons _, .refl hs⟩
  · exact ⟨_, sortRuns_length _ _ (by simp [index]), rfl, sortRuns_step _ _ hs⟩

theorem build_nodes (xs : List Int) : (build xs).2.Perm (inversions xs) := by
  obtain ⟨runs, hlen, hf, hstep⟩ := build_step xs
  simpa [pinv_sorted (sorted_flatten hstep.sorted hlen), flatten_singletons, pinv_index] using hstep.nodes

end Proofs.Ix
