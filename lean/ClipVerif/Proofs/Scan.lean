import ClipVerif.Model.Scan
import ClipVerif.Proofs.Basic
/-
The scanline list (`Model.Scan`).  What `binarySearch` returns on an ascending list is an `Outcome`: the index
of the target, or the insertion point in the code's encoding.  `insertScanline_cases` reads off it what
`insertScanline` does, and the three facts about insertion follow; `popScanline` takes the last value of an
ascending list, which is the largest, with all its copies.
-/
namespace Proofs.Scan
open Model

def Ascending (l : List Int64) : Prop := l.Pairwise (· ≤ ·)

/-- outcome of a search: found at an index, or an insertion point splitting `< target` / `> target` -/
def Outcome (l : List Int64) (target : Int64) (r : Int) : Prop :=
  (0 ≤ r ∧ ∃ h : r.toNat < l.length, l[r.toNat] = target) ∨
  (∃ k : Nat, r = -((k : Int) + 1) ∧ k ≤ l.length ∧
    (∀ i (hi : i < l.length), i < k → l[i] < target) ∧
    (∀ i (hi : i < l.length), k ≤ i → target < l[i]))

theorem outcome_of_empty {l : List Int64} {target : Int64} {low high : Int} (h0 : 0 ≤ low)
    (hh : high < l.length) (hl : low ≤ high + 1) (he : high < low)
    (hlo : ∀ i (hi : i < l.length), (i : Int) < low → l[i] < target)
    (hhi : ∀ i (hi : i < l.length), high < (i : Int) → target < l[i]) :
    Outcome l target (-(low + 1)) := by
  right
  refine ⟨low.toNat, by omega, by omega, ?_, ?_⟩
  · intro i hi hik; exact hlo i hi (by omega)
  · intro i hi hik; exact hhi i hi (by omega)

theorem go_spec (l : List Int64) (target : Int64) (h : Ascending l) (fuel : Nat) (low high : Int)
    (h0 : 0 ≤ low) (hh : high < l.length) (hl : low ≤ high + 1) (hf : high + 1 - low ≤ fuel)
    (hlo : ∀ i (hi : i < l.length), (i : Int) < low → l[i] < target)
    (hhi : ∀ i (hi : i < l.length), high < (i : Int) → target < l[i]) :
    Outcome l target (binarySearch.go l.toArray target fuel low high) := by
  induction fuel generalizing low high with
  | zero =>
    unfold binarySearch.go
    exact outcome_of_empty h0 hh hl (by omega) hlo hhi
  | succ f ih =>
    unfold binarySearch.go
    by_cases hle : low ≤ high
    · simp only [hle, if_true]
      have hmid : low ≤ low + (high - low) / 2 ∧ low + (high - low) / 2 ≤ high := by omega
      generalize low + (high - low) / 2 = mid at *
      have hm : mid.toNat < l.length := by omega
      have hget : l.toArray[mid.toNat]! = l[mid.toNat] := by
        simp [hm]
      rw [hget]
      by_cases heq : l[mid.toNat] = target
      · simp only [heq, if_true]
        left
        exact ⟨by omega, hm, heq⟩
      · simp only [heq, if_false]
        by_cases hlt : l[mid.toNat] < target
        · simp only [hlt, if_true]
          apply ih (mid + 1) high (by omega) hh (by omega) (by omega)
          · intro i hi hik
            have : i ≤ mid.toNat := by omega
            exact Int64.lt_of_le_of_lt (List.Pairwise.getElem_of_le h Int64.le_refl hi hm this) hlt
          · exact hhi
        · simp only [hlt, if_false]
          have hgt : target < l[mid.toNat] :=
            Int64.lt_of_le_of_ne (Int64.not_lt.mp hlt) (fun e => heq e.symm)
          apply ih low (mid - 1) h0 (by omega) (by omega) (by omega)
          · exact hlo
          · intro i hi hik
            have : mid.toNat ≤ i := by omega
            exact Int64.lt_of_lt_of_le hgt (List.Pairwise.getElem_of_le h Int64.le_refl hm hi this)
    · simp only [hle, if_false]
      exact outcome_of_empty h0 hh hl (by omega) hlo hhi

theorem binarySearch_spec (l : List Int64) (target : Int64) (h : Ascending l) :
    Outcome l target (binarySearch l.toArray target) := by
  rw [binarySearch, List.size_toArray]
  apply go_spec l target h
  · omega
  · omega
  · omega
  · omega
  · intro i hi hik; omega
  · intro i hi hik; omega

theorem insertScanline_cases (l : List Int64) (y : Int64) (h : Ascending l) :
    (insertScanline l y = l ∧ y ∈ l) ∨
    (∃ l1 l2, l = l1 ++ l2 ∧ insertScanline l y = l1 ++ y :: l2 ∧
      (∀ a ∈ l1, a < y) ∧ (∀ a ∈ l2, y < a)) := by
  unfold insertScanline
  rcases binarySearch_spec l y h with ⟨h0, hm, heq⟩ | ⟨k, hr, hk, hlo, hhi⟩
  · left
    simp only [ge_iff_le, h0, if_true, true_and]
    rw [← heq]; exact List.getElem_mem hm
  · right
    refine ⟨l.take k, l.drop k, (List.take_append_drop k l).symm, ?_, ?_, ?_⟩
    · have hneg : ¬ (binarySearch l.toArray y ≥ 0) := by omega
      have hk' : (-(binarySearch l.toArray y) - 1).toNat = k := by omega
      simp only [hneg, if_false, hk', List.append_assoc, List.singleton_append]
    · intro a ha
      rcases List.mem_take_iff_getElem.mp ha with ⟨i, hi, rfl⟩
      exact hlo i (by omega) (by omega)
    · intro a ha
      rcases List.mem_drop_iff_getElem.mp ha with ⟨i, hi, rfl⟩
      exact hhi (k + i) (by omega) (by omega)

theorem insertScanline_ascending (l : List Int64) (y : Int64) (h : Ascending l) :
    Ascending (insertScanline l y) := by
  rcases insertScanline_cases l y h with ⟨he, _⟩ | ⟨l1, l2, rfl, he, hlo, hhi⟩
  · rw [he]; exact h
  · obtain ⟨h1, h2, h12⟩ := List.pairwise_append.1 h
    rw [he]
    exact List.pairwise_append.2 ⟨h1, List.pairwise_cons.2 ⟨fun a ha => Int64.le_of_lt (hhi a ha), h2⟩,
      fun a ha => List.forall_mem_cons.2 ⟨Int64.le_of_lt (hlo a ha), h12 a ha⟩⟩

theorem insertScanline_mem (l : List Int64) (y z : Int64) (h : Ascending l) :
    z ∈ insertScanline l y ↔ (z = y ∨ z ∈ l) := by
  rcases insertScanline_cases l y h with ⟨he, hy⟩ | ⟨l1, l2, rfl, he, _, _⟩
  · rw [he]
    exact ⟨Or.inr, fun hz => hz.elim (fun e => e ▸ hy) id⟩
  · rw [he]
    simp only [List.mem_append, List.mem_cons, or_left_comm]

theorem insertScanline_present (l : List Int64) (y : Int64) (h : Ascending l) (hy : y ∈ l) :
    insertScanline l y = l := by
  rcases insertScanline_cases l y h with ⟨he, _⟩ | ⟨l1, l2, rfl, _, hlo, hhi⟩
  · exact he
  · rcases List.mem_append.1 hy with hy | hy
    · exact absurd (hlo y hy) Int64.lt_irrefl
    · exact absurd (hhi y hy) Int64.lt_irrefl

theorem popScanline_nil : popScanline [] = none := by
  simp [popScanline]

theorem popScanline_eq (init : List Int64) (y : Int64) (h : Ascending (init ++ [y])) :
    popScanline (init ++ [y]) = some (y, (init ++ [y]).filter (· ≠ y)) ∧ ∀ z ∈ init ++ [y], z ≤ y := by
  obtain ⟨hi, _, hiy⟩ := List.pairwise_append.1 h
  have hmax : ∀ z ∈ init, z ≤ y := fun z hz => hiy z hz y (List.mem_singleton.2 rfl)
  -- nothing is above `y`, so the copies of `y` are at the end: behind a value that is not `y` none follows
  have hp : init.Pairwise fun a b => decide (b = y) = false → decide (a = y) = false :=
    hi.imp_of_mem fun _ hb hab hby => by
      rw [decide_eq_false_iff_not] at hby ⊢
      rintro rfl
      exact hby (Int64.le_antisymm (hmax _ hb) hab)
  constructor
  · rw [popScanline, List.reverse_append, List.reverse_singleton, List.singleton_append]
    show some (y, (init.reverse.dropWhile (· = y)).reverse) = _
    rw [List.dropWhile_eq_filter_not (List.pairwise_reverse.2 hp), List.filter_reverse, List.reverse_reverse,
      List.filter_append, List.filter_cons_of_neg (by simp), List.filter_nil, List.append_nil]
    simp only [decide_not]
  · intro z hz
    rcases List.mem_append.1 hz with hz | hz
    · exact hmax z hz
    · rw [List.mem_singleton.1 hz]; exact Int64.le_refl _

theorem popScanline_spec (l : List Int64) (h : Ascending l) (hne : l ≠ []) :
    ∃ y rest, popScanline l = some (y, rest) ∧ y ∈ l ∧ (∀ z ∈ l, z ≤ y) ∧
      Ascending rest ∧ (∀ z, z ∈ rest ↔ (z ∈ l ∧ z ≠ y)) := by
  rw [← List.dropLast_concat_getLast hne] at h ⊢
  obtain ⟨he, hmax⟩ := popScanline_eq _ _ h
  refine ⟨_, _, he, by simp, hmax, List.Pairwise.filter _ h, fun z => ?_⟩
  rw [List.mem_filter, decide_eq_true_eq]

end Proofs.Scan
