/-
List and Array facts that core does not have, named as core would name them: from inside any
`Proofs.*` namespace `Proofs.List.foo` is found as `List.foo`. Core Lean only.
-/
namespace Proofs
variable {α β : Type}

theorem ite_eq_or_eq (c : Prop) [Decidable c] (x y : α) : ite c x y = x ∨ ite c x y = y := by
  split
  · exact Or.inl rfl
  · exact Or.inr rfl

theorem List.eq_nil_or_snoc (l : List α) : l = [] ∨ ∃ m z, l = m ++ [z] := by
  simpa only [List.concat_eq_append] using l.eq_nil_or_concat

theorem List.snoc_induction {P : List α → Prop} (nil : P [])
    (snoc : ∀ l a, P l → P (l ++ [a])) : ∀ l, P l := by
  intro l
  rw [← List.reverse_reverse l]
  induction l.reverse with
  | nil => exact nil
  | cons a r ih => rw [List.reverse_cons]; exact snoc _ a ih

theorem List.getElem!_map [Inhabited α] [Inhabited β] (l : List α) (f : α → β) {i : Nat}
    (h : i < l.length) : (l.map f)[i]! = f l[i]! := by
  rw [getElem!_pos _ i (by rwa [List.length_map]), getElem!_pos l i h, List.getElem_map]

theorem List.getD_set (l : List α) (i j : Nat) (x d : α) :
    (l.set i x).getD j d = if i = j ∧ i < l.length then x else l.getD j d := by
  by_cases h : i = j
  · subst h
    by_cases h' : i < l.length <;> simp [h']
  · simp [h]

theorem List.eraseIdx_map (f : α → β) (l : List α) (i : Nat) :
    (l.map f).eraseIdx i = (l.eraseIdx i).map f := by
  induction l generalizing i with
  | nil => rfl
  | cons a l ih => cases i with
    | zero => rfl
    | succ i => exact congrArg (f a :: ·) (ih i)

theorem List.filterMap_congr {f g : α → Option β} {l : List α} (h : ∀ x ∈ l, f x = g x) :
    l.filterMap f = l.filterMap g := by
  induction l with
  | nil => rfl
  | cons a l ih =>
    rw [List.filterMap_cons, List.filterMap_cons, h a List.mem_cons_self,
      ih fun x hx => h x (List.mem_cons_of_mem _ hx)]

theorem List.filterMap_sublist_map {f : α → Option β} {g : α → β} (h : ∀ a b, f a = some b → b = g a) :
    ∀ l : List α, (l.filterMap f).Sublist (l.map g)
  | [] => .slnil
  | a :: l => by
    rw [List.filterMap_cons, List.map_cons]
    split
    · exact (filterMap_sublist_map h l).cons _
    next b hb =>
      rw [h a b hb]
      exact (filterMap_sublist_map h l).cons_cons _

theorem List.findSome?_congr {f g : α → Option β} {l : List α} (h : ∀ x ∈ l, f x = g x) :
    l.findSome? f = l.findSome? g := by
  induction l with
  | nil => rfl
  | cons a l ih =>
    rw [List.findSome?_cons, List.findSome?_cons, h a List.mem_cons_self,
      ih fun x hx => h x (List.mem_cons_of_mem _ hx)]

theorem List.drop_length_takeWhile (p : α → Bool) (l : List α) :
    l.drop (l.takeWhile p).length = l.dropWhile p := by
  induction l with
  | nil => simp
  | cons a t ih =>
    by_cases h : p a <;> simp [h, ih]

theorem List.dropWhile_eq_filter_not {p : α → Bool} {l : List α}
    (h : l.Pairwise fun a b => p a = false → p b = false) : l.dropWhile p = l.filter (!p ·) := by
  induction l with
  | nil => rfl
  | cons a l ih =>
    obtain ⟨ha, hl⟩ := List.pairwise_cons.1 h
    cases hp : p a
    · rw [List.dropWhile_cons_of_neg (by simp [hp]), List.filter_cons_of_pos (by simp [hp]),
        List.filter_eq_self.2 fun b hb => by simp [ha b hb hp]]
    · rw [List.dropWhile_cons_of_pos hp, List.filter_cons_of_neg (by simp [hp]), ih hl]

theorem List.eq_take_pair_drop (l : List α) (k : Nat) (h : k + 1 < l.length) :
    l = l.take k ++ [l[k], l[k+1]] ++ l.drop (k + 2) := by
  have h1 : l.drop k = l[k] :: l.drop (k + 1) := List.drop_eq_getElem_cons (by omega)
  have h2 : l.drop (k + 1) = l[k+1] :: l.drop (k + 2) := List.drop_eq_getElem_cons h
  calc l = l.take k ++ l.drop k := (List.take_append_drop k l).symm
    _ = _ := by rw [h1, h2]; simp

theorem List.drop_eq_getElem!_cons [Inhabited α] (L : List α) (i : Nat) (h : i < L.length) :
    L.drop i = L[i]! :: L.drop (i + 1) := by
  rw [getElem!_pos L i h]
  exact List.drop_eq_getElem_cons h

theorem List.drop_take_eq_getElem!_cons [Inhabited α] (L : List α) (i e : Nat) (h : i < e)
    (he : e ≤ L.length) : (L.take e).drop i = L[i]! :: (L.take e).drop (i + 1) := by
  have hi : i < (L.take e).length := by rw [List.length_take]; omega
  rw [List.drop_eq_getElem_cons hi, List.getElem_take, getElem!_pos L i (by omega)]

theorem List.Pairwise.head_rel {R : α → α → Prop} {a : α} {l : List α} (h : (a :: l).Pairwise R)
    (hr : ∀ a, R a a) : ∀ x ∈ a :: l, R a x := by
  intro x hx
  rcases List.mem_cons.1 hx with rfl | hx
  · exact hr _
  · exact List.rel_of_pairwise_cons h hx

theorem List.Pairwise.getElem_of_le {R : α → α → Prop} {l : List α} (h : l.Pairwise R)
    (hr : ∀ a, R a a) {i j : Nat} (hi : i < l.length) (hj : j < l.length) (hij : i ≤ j) :
    R l[i] l[j] := by
  rcases Nat.lt_or_eq_of_le hij with hlt | rfl
  · exact List.pairwise_iff_getElem.mp h i j hi hj hlt
  · exact hr _

theorem List.rotateLeft_perm (l : List α) (k : Nat) : (l.rotateLeft k).Perm l := by
  unfold List.rotateLeft
  simp only []
  split
  · exact .refl l
  · exact List.perm_append_comm.trans (.of_eq (List.take_append_drop _ l))

theorem List.rotateLeft_eq_getElem!_cons [Inhabited α] (l : List α) (k : Nat) (hl : 1 < l.length)
    (hk : k < l.length) : l.rotateLeft k = l[k]! :: (l.drop (k + 1) ++ l.take k) := by
  unfold List.rotateLeft
  simp only []
  rw [if_neg (by omega), Nat.mod_eq_of_lt hk, List.drop_eq_getElem!_cons l k hk]
  rfl

theorem List.set_perm (a : α) : ∀ (l : List α) (k : Nat) (h : k < l.length),
    (l[k] :: l.set k a).Perm (a :: l)
  | [], _, h => by simp at h
  | b :: r, 0, _ => by simpa using List.Perm.swap _ _ _
  | b :: r, k + 1, h => by
    simp only [List.getElem_cons_succ, List.set_cons_succ]
    have := List.set_perm a r k (by simpa using h)
    exact (List.Perm.swap _ _ _).trans ((List.Perm.cons b this).trans (List.Perm.swap _ _ _))

theorem List.Perm.sum_eq {l1 l2 : List Int} (h : l1.Perm l2) : l1.sum = l2.sum := by
  rw [List.sum_eq_foldr, List.sum_eq_foldr]
  exact h.foldr_eq' (fun x _ y _ z => Int.add_left_comm y x z) 0

/-- `sel` keeps the `le`-smaller of the accumulator and the next element: the fold is a lower bound of
    the list and of the start value, and it is one of them -/
theorem List.foldl_sel (le : α → α → Prop) (htr : ∀ a b c, le a b → le b c → le a c)
    (sel : α → α → α) (hs : ∀ m x, le (sel m x) x ∧ le (sel m x) m ∧ (sel m x = m ∨ sel m x = x))
    (hrefl : ∀ a, le a a) (xs : List α) (m : α) :
    (∀ x ∈ xs, le (List.foldl sel m xs) x) ∧ le (List.foldl sel m xs) m ∧
    (List.foldl sel m xs = m ∨ List.foldl sel m xs ∈ xs) := by
  induction xs generalizing m with
  | nil => exact ⟨fun _ h => absurd h List.not_mem_nil, hrefl m, Or.inl rfl⟩
  | cons x xs ih =>
    obtain ⟨h1, h2, h3⟩ := ih (sel m x)
    obtain ⟨s1, s2, s3⟩ := hs m x
    refine ⟨List.forall_mem_cons.2 ⟨htr _ _ _ h2 s1, h1⟩, htr _ _ _ h2 s2, ?_⟩
    rcases h3 with h3 | h3
    · rcases s3 with s3 | s3
      · exact Or.inl (h3.trans s3)
      · exact Or.inr (List.mem_cons.2 (Or.inl (h3.trans s3)))
    · exact Or.inr (List.mem_cons_of_mem _ h3)

/-- started above everything, the fold over the keys of a non-empty list is the least key -/
theorem List.foldl_sel_top (le : β → β → Prop) (htr : ∀ a b c, le a b → le b c → le a c)
    (sel : β → β → β) (hs : ∀ m x, le (sel m x) x ∧ le (sel m x) m ∧ (sel m x = m ∨ sel m x = x))
    (hrefl : ∀ a, le a a) (hanti : ∀ a b, le a b → le b a → a = b) (top : β) (htop : ∀ x, le x top)
    (key : α → β) (l : List α) (hne : l ≠ []) :
    (∀ p ∈ l, le (List.foldl sel top (l.map key)) (key p)) ∧
    ∃ p ∈ l, key p = List.foldl sel top (l.map key) := by
  obtain ⟨h1, -, h3⟩ := List.foldl_sel le htr sel hs hrefl (l.map key) top
  refine ⟨fun _ hp => h1 _ (List.mem_map_of_mem hp), List.mem_map.mp (h3.elim (fun h3 => ?_) id)⟩
  obtain ⟨x, hx⟩ := List.exists_mem_of_ne_nil l hne
  have hk := h1 _ (List.mem_map_of_mem hx)
  rw [h3] at hk ⊢
  rw [hanti top (key x) hk (htop _)]
  exact List.mem_map_of_mem hx

theorem Array.getElem!_map [Inhabited α] [Inhabited β] (xs : Array α) (f : α → β) {i : Nat}
    (h : i < xs.size) : (xs.map f)[i]! = f xs[i]! := by
  rw [getElem!_pos _ i (by rwa [Array.size_map]), getElem!_pos xs i h, Array.getElem_map]

theorem Array.getElem!_map_range [Inhabited β] (n i : Nat) (f : Nat → β) (hi : i < n) :
    ((Array.range n).map f)[i]! = f i := by
  rw [Array.getElem!_map _ f (by simpa using hi), getElem!_pos _ i (by simpa using hi), Array.getElem_range]

theorem Array.getElem!_modify [Inhabited α] (xs : Array α) (i j : Nat) (f : α → α) :
    (xs.modify i f)[j]! = if i = j ∧ j < xs.size then f xs[j]! else xs[j]! := by
  simp only [getElem!_def, Array.getElem?_modify]
  by_cases h : i = j
  · subst h
    by_cases h2 : i < xs.size
    · simp [h2]
    · simp [h2]
  · simp [h]

theorem Array.getElem!_replicate_default [Inhabited α] (n k : Nat) :
    (Array.replicate n (default : α))[k]! = default := by
  rw [getElem!_def, Array.getElem?_replicate]
  by_cases hk : k < n
  · rw [if_pos hk]
  · rw [if_neg hk]

theorem Array.getElem!_mem_toList [Inhabited α] (xs : Array α) (i : Nat) (h : i < xs.size) :
    xs[i]! ∈ xs.toList := by
  rw [getElem!_pos xs i h]
  exact Array.getElem_mem_toList h

theorem Array.forall_mem_toList [Inhabited α] {Q : α → Prop} (xs : Array α) :
    (∀ a ∈ xs.toList, Q a) ↔ ∀ k < xs.size, Q xs[k]! := by
  simp only [Array.mem_toList_iff, Array.forall_mem_iff_forall_getElem]
  exact forall_congr' fun k => forall_congr' fun hk => by rw [getElem!_pos xs k hk]

end Proofs
