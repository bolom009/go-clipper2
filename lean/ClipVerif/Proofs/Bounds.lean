import ClipVerif.Model.Conv
import ClipVerif.Proofs.Basic
/-
`getBounds` folds four running extrema over the path, started at the sentinels `MaxInt64`/`MinInt64`
(`List.foldl_sel_top`): the result is the tight bounding box of a non-empty path.  `GetBounds64` differs only by
a test for the sentinel, which a coordinate in range never equals.  Core Lean only.
-/
namespace Proofs.C14
open Gen

def minStep (m x : Int64) : Int64 := if x < m then x else m
def maxStep (m x : Int64) : Int64 := if x > m then x else m

theorem minStep_spec (m x : Int64) :
    minStep m x ≤ x ∧ minStep m x ≤ m ∧ (minStep m x = m ∨ minStep m x = x) := by
  unfold minStep
  split
  next h => exact ⟨Int64.le_refl _, Int64.le_of_lt h, Or.inr rfl⟩
  next h => exact ⟨Int64.not_lt.1 h, Int64.le_refl _, Or.inl rfl⟩

theorem maxStep_spec (m x : Int64) :
    x ≤ maxStep m x ∧ m ≤ maxStep m x ∧ (maxStep m x = m ∨ maxStep m x = x) := by
  unfold maxStep
  split
  next h => exact ⟨Int64.le_refl _, Int64.le_of_lt h, Or.inr rfl⟩
  next h => exact ⟨Int64.not_lt.1 h, Int64.le_refl _, Or.inl rfl⟩

theorem foldl_minStep_exact {α : Type} (key : α → Int64) (l : List α) (hne : l ≠ []) :
    (∀ p ∈ l, List.foldl minStep Int64.maxValue (l.map key) ≤ key p) ∧
    ∃ p ∈ l, key p = List.foldl minStep Int64.maxValue (l.map key) :=
  List.foldl_sel_top (· ≤ ·) (fun _ _ _ => Int64.le_trans) minStep minStep_spec Int64.le_refl
    (fun _ _ => Int64.le_antisymm) _ Int64.le_maxValue key l hne

theorem foldl_maxStep_exact {α : Type} (key : α → Int64) (l : List α) (hne : l ≠ []) :
    (∀ p ∈ l, key p ≤ List.foldl maxStep Int64.minValue (l.map key)) ∧
    ∃ p ∈ l, key p = List.foldl maxStep Int64.minValue (l.map key) :=
  List.foldl_sel_top (· ≥ ·) (fun _ _ _ h1 h2 => Int64.le_trans h2 h1) maxStep maxStep_spec Int64.le_refl
    (fun _ _ h1 h2 => Int64.le_antisymm h2 h1) _ Int64.minValue_le key l hne

theorem getBounds_loop1_eq (r : Rect64) (pt : Point64) :
    getBounds_loop1 r pt =
      { left := minStep r.left pt.X, top := minStep r.top pt.Y,
        right := maxStep r.right pt.X, bottom := maxStep r.bottom pt.Y } := by
  obtain ⟨l, t, rr, b⟩ := r
  simp only [getBounds_loop1, minStep, maxStep, Id.run, pure, decide_eq_true_eq, gt_iff_lt]
  by_cases h1 : pt.X < l <;> by_cases h2 : rr < pt.X <;> by_cases h3 : pt.Y < t <;> by_cases h4 : b < pt.Y <;>
    simp only [h1, h2, h3, h4, if_true, if_false] <;> rfl

theorem getBounds_fold (l : List Point64) (r : Rect64) :
    List.foldl getBounds_loop1 r l =
      { left := List.foldl minStep r.left (l.map (·.X)), top := List.foldl minStep r.top (l.map (·.Y)),
        right := List.foldl maxStep r.right (l.map (·.X)),
        bottom := List.foldl maxStep r.bottom (l.map (·.Y)) } := by
  induction l generalizing r with
  | nil => rfl
  | cons x xs ih => simp only [List.foldl_cons, List.map_cons, ih, getBounds_loop1_eq]

theorem getBounds_eq_fold : ∀ path : List Point64, path ≠ [] →
    getBounds path = List.foldl getBounds_loop1 (NewRect64Invalid false) path
  | _ :: _, _ => rfl

theorem getBounds_exact (path : List Point64) (hne : path ≠ []) :
    let r := getBounds path
    (∀ p ∈ path, r.left ≤ p.X ∧ p.X ≤ r.right ∧ r.top ≤ p.Y ∧ p.Y ≤ r.bottom) ∧
    (∃ p ∈ path, p.X = r.left) ∧ (∃ p ∈ path, p.X = r.right) ∧
    (∃ p ∈ path, p.Y = r.top) ∧ (∃ p ∈ path, p.Y = r.bottom) := by
  obtain ⟨lx, ex⟩ := foldl_minStep_exact (·.X) path hne
  obtain ⟨hx, fx⟩ := foldl_maxStep_exact (·.X) path hne
  obtain ⟨ly, ey⟩ := foldl_minStep_exact (·.Y) path hne
  obtain ⟨hy, fy⟩ := foldl_maxStep_exact (·.Y) path hne
  rw [getBounds_eq_fold path hne, getBounds_fold]
  exact ⟨fun p hp => ⟨lx p hp, hx p hp, ly p hp, hy p hp⟩, ex, fx, ey, fy⟩

theorem GetBounds64_loop1_eq : GetBounds64_loop1 = getBounds_loop1 := rfl

theorem GetBounds64_eq_getBounds (path : List Point64) (hne : path ≠ []) (hr : ∀ p ∈ path, p.inRange) :
    GetBounds64 path = getBounds path := by
  obtain ⟨_, ⟨p, hp, hpl⟩, _⟩ := getBounds_exact path hne
  have hneq : (getBounds path).left ≠ Int64.maxValue := by
    intro h
    have hin := (hr p hp).2.1
    rw [hpl, h, Int64.toInt_maxValue] at hin
    omega
  rw [getBounds_eq_fold path hne] at hneq ⊢
  -- `GetBounds64` runs the same fold and then tests its `left` for the sentinel
  rw [GetBounds64, GetBounds64_loop1_eq]
  exact if_neg (mt of_decide_eq_true hneq)

theorem GetBounds64_exact (path : List Point64) (hne : path ≠ []) (hr : ∀ p ∈ path, p.inRange) :
    let r := GetBounds64 path
    (∀ p ∈ path, r.left ≤ p.X ∧ p.X ≤ r.right ∧ r.top ≤ p.Y ∧ p.Y ≤ r.bottom) ∧
    (∃ p ∈ path, p.X = r.left) ∧ (∃ p ∈ path, p.X = r.right) ∧
    (∃ p ∈ path, p.Y = r.top) ∧ (∃ p ∈ path, p.Y = r.bottom) := by
  rw [GetBounds64_eq_getBounds path hne hr]
  exact getBounds_exact path hne

theorem GetBounds64_empty : GetBounds64 [] = ⟨0, 0, 0, 0⟩ := by
  rfl

end Proofs.C14
