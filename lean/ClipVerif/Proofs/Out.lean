import ClipVerif.Model.Out
import ClipVerif.Proofs.C14
import ClipVerif.Proofs.Dedup
import ClipVerif.Proofs.Basic
/-
`Model.Out`.  The removal loop ends with no removable vertex left (`clean_post`): the invariant `Inv` counts
the steps of the current lap, and the potential `phi` is where the fuel `(n + 1)²` of `cleanCollinearLoop`
comes from.  `buildPath` is `dedupAdjacent` of the visiting order `seqOf`, up to the tests on small rings
(`buildPath_eq`).  Both commute with point maps that preserve the tests they make (section `Map`).
-/
namespace Proofs.Out
open Gen Model Proofs.C14 Proofs.Dedup

theorem removable_of_duplicate (preserve : Bool) (ring : List Point64) (i : Nat)
    (h : ringGet ring i = ringGet ring (ringPrev ring.length i) ∨
         ringGet ring i = ringGet ring (ringNext ring.length i)) :
    removable preserve ring i = true := by
  unfold removable
  rcases h with h | h
  · simp only [h, isCollinear_self_left, beq_self_eq_true, Bool.true_or, Bool.and_true]
  · simp only [← h, isCollinear_self_right, beq_self_eq_true, Bool.true_or, Bool.or_true, Bool.and_true]

theorem add_mod_eq_iff {n a k : Nat} (ha : a < n) (h0 : 0 < k) (hk : k ≤ n) : (a + k) % n = a ↔ k = n := by
  constructor
  · intro h
    by_cases h1 : a + k < n
    · rw [Nat.mod_eq_of_lt h1] at h; omega
    · rw [Nat.mod_eq_sub_mod (by omega), Nat.mod_eq_of_lt (by omega)] at h; omega
  · rintro rfl
    rw [Nat.add_mod_right, Nat.mod_eq_of_lt ha]

theorem exists_add_mod {n a i : Nat} (ha : a < n) (hi : i < n) : ∃ j, j < n ∧ (a + j) % n = i := by
  by_cases h : a ≤ i
  · exact ⟨i - a, by omega, by rw [show a + (i - a) = i by omega, Nat.mod_eq_of_lt hi]⟩
  · exact ⟨i + n - a, by omega,
      by rw [show a + (i + n - a) = i + n by omega, Nat.add_mod_right, Nat.mod_eq_of_lt hi]⟩

theorem ringNext_eq {n c : Nat} (h : c < n) : ringNext n c = if c + 1 = n then 0 else c + 1 := by
  rw [ringNext]
  split
  · next h1 => rw [h1, Nat.mod_self]
  · exact Nat.mod_eq_of_lt (by omega)

theorem ringPrev_eq {n c : Nat} (h : c < n) : ringPrev n c = if c = 0 then n - 1 else c - 1 := by
  rw [ringPrev]
  split
  · next h1 => rw [h1, Nat.zero_add, Nat.mod_eq_of_lt (by omega)]
  · rw [show c + n - 1 = c - 1 + n by omega, Nat.add_mod_right, Nat.mod_eq_of_lt (by omega)]

theorem ringPrev_ne {n c : Nat} (hn : 2 ≤ n) (hc : c < n) : ringPrev n c ≠ c := by
  rw [ringPrev_eq hc]
  split <;> omega

/-- where a vertex other than `c` is after `c` has been erased -/
theorem shift_lt {n c j : Nat} (hc : c < n) (hj : j < n) (hne : j ≠ c) :
    (if j > c then j - 1 else j) < n - 1 := by
  split <;> omega

theorem cleanStep_remove {preserve : Bool} {s : CleanSt} (h : removable preserve s.ring s.cur = true) :
    cleanStep preserve s =
      if s.ring.length - 1 < 2 then ({ ring := [], cur := 0, start := 0, pts := 0 }, false)
      else
        let cur' := if s.cur = s.ring.length - 1 then 0 else s.cur
        let pts := if s.cur = s.pts then ringPrev s.ring.length s.cur else s.pts
        ({ ring := s.ring.eraseIdx s.cur, cur := cur', start := cur',
           pts := if pts > s.cur then pts - 1 else pts }, true) := by
  simp only [cleanStep, h, if_true]

theorem cleanStep_keep {preserve : Bool} {s : CleanSt} (h : removable preserve s.ring s.cur = false) :
    cleanStep preserve s =
      ({ s with cur := ringNext s.ring.length s.cur }, ringNext s.ring.length s.cur != s.start) := by
  simp only [cleanStep, h, Bool.false_eq_true, if_false]

/-- The loop has made `k` steps since `start` (where the last removal happened, or the loop began),
    each past a vertex that is not removable. -/
structure Inv (preserve : Bool) (k : Nat) (s : CleanSt) : Prop where
  len : 2 ≤ s.ring.length
  start : s.start < s.ring.length
  pts : s.pts < s.ring.length
  lap : k < s.ring.length
  cur : s.cur = (s.start + k) % s.ring.length
  chk : ∀ j, j < k → removable preserve s.ring ((s.start + j) % s.ring.length) = false

def Post (preserve : Bool) (s : CleanSt) : Prop :=
  s.ring = [] ∨ (2 ≤ s.ring.length ∧ s.pts < s.ring.length ∧
    ∀ i, i < s.ring.length → removable preserve s.ring i = false)

/-- lexicographic in (ring length, steps left in the lap) -/
def phi (k : Nat) (s : CleanSt) : Nat := s.ring.length * (s.ring.length + 1) + (s.ring.length - k)

theorem cleanStep_spec {preserve : Bool} {k : Nat} {s s' : CleanSt} {b : Bool} (h : Inv preserve k s)
    (hstep : cleanStep preserve s = (s', b)) :
    (b = true ∧ ∃ k', Inv preserve k' s' ∧ phi k' s' < phi k s) ∨ (b = false ∧ Post preserve s') := by
  obtain ⟨hlen, hstart, hpts, hk, hcur, hchk⟩ := h
  have hcn : s.cur < s.ring.length := hcur ▸ Nat.mod_lt _ (by omega)
  cases hr : removable preserve s.ring s.cur with
  | true =>
    rw [cleanStep_remove hr] at hstep
    split at hstep
    · cases hstep
      exact Or.inr ⟨rfl, Or.inl rfl⟩
    · -- a new lap starts at the vertex after the erased one
      cases hstep
      refine Or.inl ⟨rfl, 0,
        { len := ?len, start := ?start, pts := ?pts, lap := ?lap, cur := ?cur,
          chk := fun j hj => absurd hj (Nat.not_lt_zero j) }, ?phi⟩
      all_goals simp only [phi, List.length_eraseIdx, hcn, if_true]
      case len => omega
      case start => split <;> omega
      case pts =>
        by_cases hp : s.cur = s.pts
        · rw [if_pos hp]; exact shift_lt hcn (Nat.mod_lt _ (by omega)) (ringPrev_ne hlen hcn)
        · rw [if_neg hp]; exact shift_lt hcn hpts (Ne.symm hp)
      case lap => omega
      case cur => rw [Nat.add_zero, Nat.mod_eq_of_lt]; split <;> omega
      case phi =>
        obtain ⟨m, hm⟩ : ∃ m, s.ring.length = m + 1 := ⟨s.ring.length - 1, by omega⟩
        simp only [hm, Nat.add_sub_cancel, Nat.mul_add, Nat.add_mul]
        omega
  | false =>
    rw [cleanStep_keep hr] at hstep
    cases hstep
    have hnext : ringNext s.ring.length s.cur = (s.start + (k + 1)) % s.ring.length := by
      rw [hcur, ringNext, Nat.mod_add_mod, Nat.add_assoc]
    have hchk' : ∀ j, j < k + 1 → removable preserve s.ring ((s.start + j) % s.ring.length) = false := by
      intro j hj
      by_cases hjk : j = k
      · rw [hjk, ← hcur]; exact hr
      · exact hchk j (by omega)
    have hiff := add_mod_eq_iff hstart (Nat.succ_pos k) hk
    rw [← hnext] at hiff
    by_cases hs : ringNext s.ring.length s.cur = s.start
    · -- back at `start`: the lap is complete
      refine Or.inr ⟨by simp [hs], Or.inr ⟨hlen, hpts, fun i hi => ?_⟩⟩
      obtain ⟨j, hj, rfl⟩ := exists_add_mod hstart hi
      exact hchk' j (by have := hiff.1 hs; omega)
    · refine Or.inl ⟨by simp [hs], k + 1, ⟨hlen, hstart, hpts, ?_, hnext, hchk'⟩, ?_⟩
      · exact Nat.lt_of_le_of_ne hk (fun e => hs (hiff.2 e))
      · dsimp only [phi]; omega

theorem cleanLoop_spec {preserve : Bool} {fuel k : Nat} {s : CleanSt} (h : Inv preserve k s) (hf : phi k s < fuel) :
    Post preserve (cleanLoop preserve fuel s) := by
  induction fuel generalizing k s with
  | zero => exact absurd hf (Nat.not_lt_zero _)
  | succ f ih =>
    unfold cleanLoop
    cases hstep : cleanStep preserve s with
    | mk s' b =>
      rcases cleanStep_spec h hstep with ⟨rfl, k', h2, h3⟩ | ⟨rfl, h2⟩
      · exact ih h2 (by omega)
      · exact h2

theorem clean_post (preserve : Bool) (ring : List Point64) :
    (cleanCollinearLoop preserve ring).1 = [] ∨
    (2 ≤ (cleanCollinearLoop preserve ring).1.length ∧
     (cleanCollinearLoop preserve ring).2 < (cleanCollinearLoop preserve ring).1.length ∧
     ∀ i, i < (cleanCollinearLoop preserve ring).1.length →
       removable preserve (cleanCollinearLoop preserve ring).1 i = false) := by
  unfold cleanCollinearLoop
  split
  · exact Or.inl rfl
  · next hl =>
    have hn : 0 < ring.length := by omega
    have h2 : 2 ≤ ring.length := by omega
    refine cleanLoop_spec (k := 0) ⟨h2, hn, hn, hn, (Nat.zero_mod _).symm,
      fun j hj => absurd hj (Nat.not_lt_zero j)⟩ ?_
    simp only [phi, Nat.mul_add, Nat.add_mul]
    omega

theorem cleanStep_sublist (preserve : Bool) (s : CleanSt) : (cleanStep preserve s).1.ring.Sublist s.ring := by
  cases hr : removable preserve s.ring s.cur with
  | true =>
    rw [cleanStep_remove hr]
    split
    · exact List.nil_sublist _
    · exact List.eraseIdx_sublist _ _
  | false =>
    rw [cleanStep_keep hr]
    exact List.Sublist.refl _

theorem cleanLoop_sublist (preserve : Bool) (fuel : Nat) (s : CleanSt) :
    (cleanLoop preserve fuel s).ring.Sublist s.ring := by
  induction fuel generalizing s with
  | zero => exact List.Sublist.refl _
  | succ f ih =>
    unfold cleanLoop
    have h := cleanStep_sublist preserve s
    generalize cleanStep preserve s = r at *
    obtain ⟨s', b⟩ := r
    cases b
    · exact h
    · exact (ih s').trans h

theorem clean_sublist (preserve : Bool) (ring : List Point64) :
    (cleanCollinearLoop preserve ring).1.Sublist ring := by
  unfold cleanCollinearLoop
  split
  · exact List.nil_sublist _
  · exact cleanLoop_sublist preserve _ _

/-- the vertices in the order `buildPath` visits them, before equal neighbours are dropped -/
def seqOf (ring : List Point64) (reverse : Bool) : List Point64 :=
  if reverse then ring.head! :: ring.tail.reverse else ring.tail ++ [ring.head!]

theorem seqOf_cons (h : Point64) (t : List Point64) (reverse : Bool) :
    seqOf (h :: t) reverse = if reverse then h :: t.reverse else t ++ [h] := rfl

theorem seqOf_true (h : Point64) (t : List Point64) : seqOf (h :: t) true = (seqOf (h :: t) false).reverse := by
  simp only [seqOf_cons, if_true, Bool.false_eq_true, if_false, List.reverse_append, List.reverse_singleton,
    List.singleton_append]

theorem seqOf_perm (h : Point64) (t : List Point64) (reverse : Bool) : (seqOf (h :: t) reverse).Perm (h :: t) := by
  cases reverse
  · exact List.perm_append_singleton h t
  · exact (List.reverse_perm t).cons h

theorem buildPath_eq (ring : List Point64) (reverse isOpen : Bool) :
    buildPath ring reverse isOpen =
      if ring.length < 2 ∨ (!isOpen ∧ ring.length = 2) then none
      else if (dedupAdjacent (seqOf ring reverse)).length ≠ 3 ∨ isOpen then some (dedupAdjacent (seqOf ring reverse))
      else if ring.length = 3 ∧ verySmallTriangle ring[0]! ring[1]! ring[2]! then none
      else some (dedupAdjacent (seqOf ring reverse)) := rfl

theorem buildPath_some {ring : List Point64} {reverse isOpen : Bool} {q : List Point64}
    (h : buildPath ring reverse isOpen = some q) : 2 ≤ ring.length ∧ q = dedupAdjacent (seqOf ring reverse) := by
  rw [buildPath_eq] at h
  split at h
  · cases h
  · next hn =>
    refine ⟨by omega, ?_⟩
    split at h
    · exact (Option.some.inj h).symm
    · exact (Option.some.inj (Option.ite_none_left_eq_some.1 h).2).symm

theorem build_no_adjacent_duplicates (ring : List Point64) (reverse isOpen : Bool) (q : List Point64)
    (h : buildPath ring reverse isOpen = some q) :
    ∀ i, i + 1 < q.length → q[i]! ≠ q[i + 1]! := by
  rw [(buildPath_some h).2]
  exact NoAdj.iff_getElem!.1 (dedup_noAdj _)

theorem seqOf_index (h : Point64) (t : List Point64) (i : Nat) (hi : i < t.length + 1) :
    (t ++ [h])[i]! = ringGet (h :: t) (i + 1) := by
  rw [ringGet, List.length_cons, List.getElem!_eq_getElem?_getD]
  by_cases e : i = t.length
  · rw [e, Nat.mod_self, List.getElem?_concat_length]; rfl
  · rw [Nat.mod_eq_of_lt (by omega), List.getElem?_append_left (by omega), ← List.getElem!_eq_getElem?_getD]; rfl

theorem seqOf_noAdj (h : Point64) (t : List Point64) (reverse : Bool)
    (hnd : ∀ i, i < (h :: t).length → ringGet (h :: t) i ≠ ringGet (h :: t) (ringNext (h :: t).length i)) :
    NoAdj (seqOf (h :: t) reverse) := by
  have h1 : NoAdj (seqOf (h :: t) false) := by
    apply NoAdj.iff_getElem!.2
    intro i hi
    simp only [seqOf_cons, Bool.false_eq_true, if_false, List.length_append, List.length_singleton] at hi ⊢
    rw [seqOf_index h t i (by omega), seqOf_index h t (i + 1) hi]
    simpa only [ringGet, ringNext, Nat.mod_mod] using hnd (i + 1) (by simpa using hi)
  cases reverse
  · exact h1
  · rw [seqOf_true]; exact NoAdj.reverse_iff.2 h1

theorem build_closed_of_clean (ring : List Point64) (reverse : Bool) (hn : 3 ≤ ring.length)
    (hnd : ∀ i, i < ring.length → ringGet ring i ≠ ringGet ring (ringNext ring.length i)) :
    buildPath ring reverse false =
      (if ring.length = 3 ∧ verySmallTriangle ring[0]! ring[1]! ring[2]! = true then none
       else some (if reverse then ring.head! :: ring.tail.reverse else ring.tail ++ [ring.head!])) := by
  cases ring with
  | nil => simp at hn
  | cons h t =>
    have h2 : ¬((h :: t).length < 2 ∨ ((!false) = true ∧ (h :: t).length = 2)) := by
      rintro (h2 | ⟨_, h2⟩) <;> omega
    rw [buildPath_eq, dedup_id _ (seqOf_noAdj h t reverse hnd), (seqOf_perm h t reverse).length_eq, if_neg h2]
    by_cases e : (h :: t).length = 3
    · rw [if_neg (by simp [e])]; rfl
    · rw [if_pos (Or.inl e), if_neg (fun h3 => e h3.1)]; rfl

section Map
variable {f : Point64 → Point64} (hinj : ∀ a b, f a = f b ↔ a = b)

include hinj in
theorem beq_map (a b : Point64) : (f a == f b) = (a == b) := by
  rw [Bool.eq_iff_iff, beq_iff_eq, beq_iff_eq, hinj]

theorem ringGet_map (f : Point64 → Point64) {ring : List Point64} (h : ring ≠ []) (i : Nat) :
    ringGet (ring.map f) i = f (ringGet ring i) := by
  unfold ringGet
  rw [List.length_map]
  exact List.getElem!_map ring f (Nat.mod_lt _ (List.length_pos_iff.mpr h))

def mapSt (f : Point64 → Point64) (s : CleanSt) : CleanSt := { s with ring := s.ring.map f }

section
variable (hcol : ∀ a b c, isCollinear (f a) (f b) (f c) = isCollinear a b c)
  (hdot : ∀ a b c, dotProduct64 (f a) (f b) (f c) = dotProduct64 a b c)
include hinj hcol hdot

theorem removable_map (preserve : Bool) (ring : List Point64) (i : Nat) :
    removable preserve (ring.map f) i = removable preserve ring i := by
  by_cases h : ring = []
  · subst h; rfl
  · simp only [removable, List.length_map, ringGet_map f h, hcol, beq_map hinj, hdot]

theorem cleanStep_map (preserve : Bool) (s : CleanSt) :
    cleanStep preserve (mapSt f s) = Prod.map (mapSt f) id (cleanStep preserve s) := by
  simp only [cleanStep, mapSt, removable_map hinj hcol hdot, List.length_map, List.eraseIdx_map,
    apply_ite (Prod.map (mapSt f) id), Prod.map_apply, id, List.map_nil]

theorem cleanLoop_map (preserve : Bool) (fuel : Nat) (s : CleanSt) :
    cleanLoop preserve fuel (mapSt f s) = mapSt f (cleanLoop preserve fuel s) := by
  induction fuel generalizing s with
  | zero => rfl
  | succ n ih =>
    simp only [cleanLoop, cleanStep_map hinj hcol hdot, Prod.map, id]
    cases cleanStep preserve s with
    | mk s' b => cases b with
      | true => exact ih s'
      | false => rfl

theorem cleanCollinearLoop_map (preserve : Bool) (ring : List Point64) :
    cleanCollinearLoop preserve (ring.map f) =
      ((cleanCollinearLoop preserve ring).1.map f, (cleanCollinearLoop preserve ring).2) := by
  unfold cleanCollinearLoop
  rw [List.length_map]
  split
  · rfl
  · exact congrArg (fun s : CleanSt => (s.ring, s.pts))
      (cleanLoop_map hinj hcol hdot preserve _ { ring := ring, cur := 0, start := 0, pts := 0 })

end

theorem seqOf_map (f : Point64 → Point64) (h : Point64) (t : List Point64) (reverse : Bool) :
    seqOf ((h :: t).map f) reverse = (seqOf (h :: t) reverse).map f := by
  cases reverse <;> simp [seqOf_cons]

include hinj in
theorem buildPath_map (hclose : ∀ a b, ptsReallyClose (f a) (f b) = ptsReallyClose a b)
    (ring : List Point64) (reverse isOpen : Bool) :
    buildPath (ring.map f) reverse isOpen = (buildPath ring reverse isOpen).map (·.map f) := by
  cases ring with
  | nil => rfl
  | cons h t =>
    rw [buildPath_eq, buildPath_eq, seqOf_map, dedup_map hinj, List.length_map, List.length_map]
    simp only [apply_ite (Option.map (List.map f ·)), Option.map_some, Option.map_none]
    by_cases h3 : (h :: t).length = 3
    · rw [List.getElem!_map _ f (by omega : 0 < (h :: t).length), List.getElem!_map _ f (by omega : 1 < (h :: t).length),
        List.getElem!_map _ f (by omega : 2 < (h :: t).length), verySmallTriangle, verySmallTriangle, hclose, hclose,
        hclose]
    · simp only [h3, false_and, if_false]

end Map

end Proofs.Out
