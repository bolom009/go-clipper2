import ClipVerif.Model.Offset
import ClipVerif.Proofs.Basic
/-
Proofs about `Model.lowestPathInfo` (model of `Group.GetLowestPathInfo`): the two loops are one running
minimum over the points of the paths of non-zero area, each point tagged with its path.
-/
namespace Proofs.Offset
open Gen Model

/-- the bottom point of `c` is "not better" than that of `s`: higher, or at the same height and not
    strictly left (the test by which the Go loop skips a point) -/
def le (s c : LowSt) : Prop := c.botY < s.botY ∨ (c.botY = s.botY ∧ c.botX ≥ s.botX)

instance (s c : LowSt) : Decidable (le s c) := by unfold le; infer_instance

theorem le_iff (s c : LowSt) : le s c ↔
    c.botY.toInt < s.botY.toInt ∨ (c.botY.toInt = s.botY.toInt ∧ s.botX.toInt ≤ c.botX.toInt) := by
  simp only [le, Int64.lt_iff_toInt_lt, ge_iff_le, Int64.le_iff_toInt_le, ← Int64.toInt_inj]

theorem le_refl (s : LowSt) : le s s := Or.inr ⟨rfl, Int64.le_refl _⟩

theorem le_trans (a b c : LowSt) : le a b → le b c → le a c := by
  simp only [le_iff]
  omega

theorem le_total {s c : LowSt} : ¬ le s c → le c s := by
  simp only [le_iff]
  omega

def sel (s c : LowSt) : LowSt := if le s c then s else c

theorem sel_spec (s c : LowSt) : le (sel s c) c ∧ le (sel s c) s ∧ (sel s c = s ∨ sel s c = c) := by
  unfold sel
  split
  · next h => exact ⟨h, le_refl s, Or.inl rfl⟩
  · next h => exact ⟨le_refl c, le_total h, Or.inr rfl⟩

/-- the state that names point `pt` of path `i`, whose area sign is `a` -/
def tag (a : Int) (i : Nat) (pt : Point64) : LowSt :=
  { idx := i, isNegArea := decide (a < 0), botX := pt.X, botY := pt.Y }

theorem lowestInner_zero (i : Nat) (pts : List Point64) (s : LowSt) :
    lowestInner 0 i pts none s = s := by
  induction pts with
  | nil => rfl
  | cons pt rest ih =>
    unfold lowestInner
    split
    · exact ih
    · simp

/-- on a path of non-zero area the inner loop is a running minimum: the lazily computed area `ao` only
    decides who writes `isNegArea`, and the value written is the same -/
theorem lowestInner_eq (a : Int) (ha : a ≠ 0) (i : Nat) (pts : List Point64) (ao : Option Int) (s : LowSt)
    (hpre : ao ≠ none → s.isNegArea = decide (a < 0)) :
    lowestInner a i pts ao s = (pts.map (tag a i)).foldl sel s := by
  induction pts generalizing ao s with
  | nil => rfl
  | cons pt rest ih =>
    rw [lowestInner.eq_def, List.map_cons, List.foldl_cons, sel]
    show (if le s (tag a i pt) then _ else _) = _
    split  -- on the skip test; it also settles the `if areaSign = 0` by `ha`
    · exact ih ao s hpre
    · cases ao with
      | none => exact ih _ _ fun _ => rfl
      | some v =>
        have e : ({ s with idx := i, botX := pt.X, botY := pt.Y } : LowSt) = tag a i pt := by
          rw [tag, ← hpre (Option.some_ne_none v)]
        simp only [e]
        exact ih _ _ fun _ => rfl

/-- what a path (with its index) puts up for the minimum: its points, unless its area is zero -/
def cands (area : List Point64 → Int) (pi : List Point64 × Nat) : List LowSt :=
  if area pi.1 = 0 then [] else pi.1.map (tag (area pi.1) pi.2)

theorem lowestOuter_eq (area : List Point64 → Int) (paths : List (List Point64)) (k : Nat) (s : LowSt) :
    lowestOuter area k paths s = ((paths.zipIdx k).flatMap (cands area)).foldl sel s := by
  induction paths generalizing k s with
  | nil => rfl
  | cons p rest ih =>
    rw [lowestOuter, ih, List.zipIdx_cons, List.flatMap_cons, List.foldl_append, cands]
    split
    · next h => rw [h, lowestInner_zero]; rfl
    · next h => rw [lowestInner_eq _ h _ _ none s (fun h => absurd rfl h)]

theorem mem_cands {area : List Point64 → Int} {paths : List (List Point64)} {c : LowSt} :
    c ∈ paths.zipIdx.flatMap (cands area) ↔
      ∃ i p, paths[i]? = some p ∧ area p ≠ 0 ∧ ∃ q ∈ p, c = tag (area p) i q := by
  simp only [List.mem_flatMap, List.mem_zipIdx_iff_getElem?, cands, Prod.exists, List.mem_ite_nil_left,
    List.mem_map]
  exact ⟨fun ⟨p, i, h, ha, q, hq, e⟩ => ⟨i, p, h, ha, q, hq, e.symm⟩,
    fun ⟨i, p, h, ha, q, hq, e⟩ => ⟨p, i, h, ha, q, hq, e.symm⟩⟩

def start : LowSt := { idx := -1, isNegArea := false, botX := Int64.maxValue, botY := Int64.minValue }

theorem le_start {c : LowSt} (h : le start c) : c.botY = Int64.minValue ∧ c.botX = Int64.maxValue := by
  have h1 := Int64.le_toInt c.botY
  have h2 := Int64.toInt_le c.botX
  simp only [le_iff, start, Int64.toInt_minValue, Int64.toInt_maxValue, ← Int64.toInt_inj] at *
  omega

theorem lowestOuter_spec (area : List Point64 → Int) (paths : List (List Point64)) (r : LowSt)
    (hr : lowestOuter area 0 paths start = r) :
    (∀ p ∈ paths, area p ≠ 0 → ∀ q ∈ p, q.Y < r.botY ∨ (q.Y = r.botY ∧ q.X ≥ r.botX)) ∧
    (r = start ∨ ∃ i p, paths[i]? = some p ∧ area p ≠ 0 ∧ ∃ b ∈ p, r = tag (area p) i b) := by
  obtain ⟨h1, -, h3⟩ := List.foldl_sel le le_trans sel sel_spec le_refl (paths.zipIdx.flatMap (cands area)) start
  rw [← lowestOuter_eq, hr] at h1 h3
  refine ⟨fun p hp ha q hq => ?_, h3.imp_right mem_cands.1⟩
  obtain ⟨i, hi⟩ := List.getElem?_of_mem hp
  -- the candidate is named: left to unification (`le r ?c` against the goal) this step is slow to check
  exact h1 (tag (area p) i q) (mem_cands.2 ⟨i, p, hi, ha, q, hq, rfl⟩)

theorem reported (area : List Point64 → Int) (paths : List (List Point64)) (i : Nat)
    (h : (lowestPathInfo area paths).1 = (i : Int)) :
    ∃ p b, paths[i]? = some p ∧ area p ≠ 0 ∧ b ∈ p ∧ lowestOuter area 0 paths start = tag (area p) i b := by
  obtain ⟨-, hr | ⟨j, p, hj, ha, b, hb, hr⟩⟩ := lowestOuter_spec area paths _ rfl
  · have : (-1 : Int) = i := (congrArg LowSt.idx hr).symm.trans h
    omega
  · obtain rfl : j = i := Int.ofNat_inj.1 ((congrArg LowSt.idx hr).symm.trans h)
    exact ⟨p, b, hj, ha, hb, hr⟩

theorem lowest_orientation (area : List Point64 → Int) (paths : List (List Point64)) (i : Nat)
    (h : (Model.lowestPathInfo area paths).1 = (i : Int)) :
    i < paths.length ∧ area paths[i]! ≠ 0 ∧
    (Model.lowestPathInfo area paths).2 = decide (area paths[i]! < 0) := by
  obtain ⟨p, b, hi, ha, -, hr⟩ := reported area paths i h
  rw [List.getElem!_of_getElem? hi]
  exact ⟨(List.getElem?_eq_some_iff.1 hi).1, ha, congrArg LowSt.isNegArea hr⟩

theorem lowest_is_lowest (area : List Point64 → Int) (paths : List (List Point64)) (i : Nat)
    (h : (Model.lowestPathInfo area paths).1 = (i : Int)) :
    ∃ b ∈ paths[i]!, ∀ p ∈ paths, area p ≠ 0 → ∀ q ∈ p, q.Y < b.Y ∨ (q.Y = b.Y ∧ q.X ≥ b.X) := by
  obtain ⟨p, b, hi, -, hb, hr⟩ := reported area paths i h
  rw [List.getElem!_of_getElem? hi]
  exact ⟨b, hb, (lowestOuter_spec area paths _ hr).1⟩

theorem lowest_none (area : List Point64 → Int) (paths : List (List Point64))
    (h : (Model.lowestPathInfo area paths).1 = -1) :
    ∀ p ∈ paths, area p ≠ 0 → ∀ q ∈ p, q.Y = Int64.minValue ∧ q.X = Int64.maxValue := by
  obtain ⟨hd, hr | ⟨j, p, -, -, b, -, hr⟩⟩ := lowestOuter_spec area paths _ rfl
  · intro p hp ha q hq
    -- `le` compares states, so `q` is put in one; its index and area sign play no part
    exact le_start (c := tag 0 0 q) (hr ▸ hd p hp ha q hq)
  · have : (j : Int) = -1 := (congrArg LowSt.idx hr).symm.trans h
    omega

end Proofs.Offset
