import ClipVerif.Model.Simplify
import ClipVerif.Proofs.Basic
/-
C16 — `getNext` / `getPrior` as cyclic successor and predecessor among the retained (unflagged)
indices (`Ret`, `Gap`), what flagging one more index does to them, and the one equation through which the
rest of the development sees `simplifyStep` (`simplifyStep_eq`).
-/
namespace Proofs.C16
open Gen Model

theorem get_ite_set! {α} [Inhabited α] (xs : Array α) (c : Prop) [Decidable c] (k i : Nat) (v : α)
    (hk : k < xs.size) : (if c then xs.set! k v else xs)[i]! = if c ∧ i = k then v else xs[i]! := by
  by_cases hc : c
  · by_cases h : i = k
    · rw [if_pos hc, if_pos ⟨hc, h⟩, h, Array.getElem!_set!_self xs k v hk]
    · rw [if_pos hc, if_neg (fun a => h a.2), Array.getElem!_set!_ne xs k i v (Ne.symm h)]
  · rw [if_neg hc, if_neg (fun a => hc a.1)]

theorem size_ite_set! {α} (xs : Array α) (c : Prop) [Decidable c] (k : Nat) (v : α) :
    (if c then xs.set! k v else xs).size = xs.size := by
  split <;> simp

theorem set_true_false {fl : Array Bool} {r j : Nat} (hr : r < fl.size) :
    (fl.set! r true)[j]! = false ↔ j ≠ r ∧ fl[j]! = false := by
  by_cases h : r = j
  · subst h; rw [Array.getElem!_set!_self fl r true hr]; simp
  · rw [Array.getElem!_set!_ne fl r j true h]
    exact ⟨fun u => ⟨Ne.symm h, u⟩, fun u => u.2⟩

theorem count_set (l : List Bool) (c : Nat) :
    ((l.set c true).filter (· = true)).length ≤ (l.filter (· = true)).length + 1 := by
  rw [← List.countP_eq_length_filter, ← List.countP_eq_length_filter]
  by_cases h : c < l.length
  · rw [List.countP_set h]; simp
  · rw [List.set_eq_of_length_le (by omega)]; omega

/- The four scanning loops of `getNext` / `getPrior` are instances of these two: a fuel-bounded scan
that steps while `p` holds stops at the first index where `p` fails, if there is one within reach:
between its start and where it stops `p` fails nowhere. -/

theorem scan_up (p : Nat → Prop) [DecidablePred p] (scan : Nat → Nat → Nat)
    (hs : ∀ c f, scan c (f + 1) = if p c then scan (c + 1) f else c)
    (fuel c i : Nat) (hci : c ≤ i) (hi : ¬ p i) (hf : i - c < fuel) :
    c ≤ scan c fuel ∧ scan c fuel ≤ i ∧ ¬ p (scan c fuel) ∧ ∀ j, ¬ p j → j < c ∨ scan c fuel ≤ j := by
  induction fuel generalizing c with
  | zero => omega
  | succ f ih =>
    rw [hs]
    split
    · next hp =>
      have : c ≠ i := fun e => hi (e ▸ hp)
      obtain ⟨h1, h2, h3, h4⟩ := ih (c + 1) (by omega) (by omega)
      refine ⟨by omega, h2, h3, fun j hj => ?_⟩
      have : j ≠ c := fun e => hj (e ▸ hp)
      have := h4 j hj
      omega
    · next hp => exact ⟨Nat.le_refl _, hci, hp, fun j _ => by omega⟩

theorem scan_down (p : Nat → Prop) [DecidablePred p] (scan : Nat → Nat → Nat)
    (hs : ∀ c f, scan c (f + 1) = if p c then scan (c - 1) f else c)
    (fuel c i : Nat) (hci : i ≤ c) (hi : ¬ p i) (hf : c - i < fuel) :
    i ≤ scan c fuel ∧ scan c fuel ≤ c ∧ ¬ p (scan c fuel) ∧ ∀ j, ¬ p j → c < j ∨ j ≤ scan c fuel := by
  induction fuel generalizing c with
  | zero => omega
  | succ f ih =>
    rw [hs]
    split
    · next hp =>
      have : c ≠ i := fun e => hi (e ▸ hp)
      obtain ⟨h1, h2, h3, h4⟩ := ih (c - 1) (by omega) (by omega)
      refine ⟨h1, by omega, h3, fun j hj => ?_⟩
      have : j ≠ c := fun e => hj (e ▸ hp)
      have := h4 j hj
      omega
    · next hp => exact ⟨hci, Nat.le_refl _, hp, fun j _ => by omega⟩

abbrev Ret (fl : Array Bool) (high i : Nat) : Prop := i ≤ high ∧ fl[i]! = false

/-- no retained index lies cyclically strictly between `a` and `b`: all of them lie in the cyclic
    interval from `b` on to `a` -/
def Gap (fl : Array Bool) (high a b : Nat) : Prop :=
  ∀ j, Ret fl high j → (a < b ∧ (j ≤ a ∨ b ≤ j)) ∨ (b ≤ a ∧ b ≤ j ∧ j ≤ a)

section
variable {fl : Array Bool} {high a b c i r : Nat}

theorem getNext_spec (hc : c ≤ high) (hex : ∃ i, Ret fl high i) :
    Ret fl high (getNext c high fl) ∧ Gap fl high c (getNext c high fl) := by
  obtain ⟨i, hi⟩ := hex
  unfold getNext
  simp only
  obtain ⟨h1, h2, h3, h4⟩ := scan_up (fun j => j ≤ high ∧ fl[j]! = true) (getNext.up high fl)
    (fun _ _ => rfl) (high + 2) (c + 1) (high + 1) (by omega) (by omega) (by omega)
  generalize getNext.up high fl (c + 1) (high + 2) = r at h1 h2 h3 h4
  have h4' : ∀ j, Ret fl high j → j ≤ c ∨ r ≤ j := fun j hj => by
    have := h4 j (by simp [hj.2]); omega
  split
  · next hle =>
    exact ⟨⟨hle, by simpa [hle] using h3⟩, fun j hj => by have := h4' j hj; omega⟩
  · -- the first scan ran past `high`: the second scan stops at the least retained index
    obtain ⟨-, g2, g3, g4⟩ := scan_up (fun j => fl[j]! = true) (getNext.up0 fl)
      (fun _ _ => rfl) (high + 2) 0 i (Nat.zero_le _) (by simp [hi.2]) (by omega)
    generalize getNext.up0 fl 0 (high + 2) = r0 at g2 g3 g4
    have := h4' i hi
    refine ⟨⟨by omega, by simpa using g3⟩, fun j hj => ?_⟩
    have := h4' j hj
    have := g4 j (by simp [hj.2])
    omega

theorem getPrior_spec (hc : c ≤ high) (hex : ∃ i, Ret fl high i) :
    Ret fl high (getPrior c high fl) ∧ Gap fl high (getPrior c high fl) c := by
  obtain ⟨i, hi⟩ := hex
  unfold getPrior
  simp only
  have hc0 : (c = 0 ∧ (if c = 0 then high else c - 1) = high) ∨ (if c = 0 then high else c - 1) + 1 = c := by
    split <;> omega
  generalize (if c = 0 then high else c - 1) = c0 at hc0
  obtain ⟨-, h2, h3, h4⟩ := scan_down (fun j => j > 0 ∧ fl[j]! = true) (getPrior.down fl)
    (fun _ _ => rfl) (high + 2) c0 0 (Nat.zero_le _) (by omega) (by omega)
  generalize getPrior.down fl c0 (high + 2) = r at h2 h3 h4
  have h4' : ∀ j, Ret fl high j → c0 < j ∨ j ≤ r := fun j hj => h4 j (by simp [hj.2])
  split
  · next hfl =>
    exact ⟨⟨by omega, by simpa using hfl⟩, fun j hj => by have := h4' j hj; omega⟩
  · next hfl =>
    -- the first scan ran down to a flagged `0`: the second scan stops at the greatest retained index
    have hr : ¬ r > 0 := fun hpos => h3 ⟨hpos, by simpa using hfl⟩
    have hall : ∀ j, Ret fl high j → c0 < j := fun j hj => by
      have := h4' j hj
      have : j ≠ r := fun e => by rw [e] at hj; simp [hj.2] at hfl
      omega
    obtain ⟨g1, g2, g3, g4⟩ := scan_down (fun j => fl[j]! = true) (getPrior.downH fl)
      (fun _ _ => rfl) (high + 2) high i hi.1 (by simp [hi.2]) (by omega)
    generalize getPrior.downH fl high (high + 2) = rH at g1 g2 g3 g4
    have := hall i hi
    refine ⟨⟨by omega, by simpa using g3⟩, fun j hj => ?_⟩
    have := hall j hj
    have := g4 j (by simp [hj.2])
    omega

theorem getNext_unflagged (current high : Nat) (flags : Array Bool)
    (hc : current ≤ high) (hex : ∃ i, i ≤ high ∧ flags[i]! = false) :
    getNext current high flags ≤ high ∧ flags[getNext current high flags]! = false :=
  (getNext_spec hc hex).1

theorem getPrior_unflagged (current high : Nat) (flags : Array Bool)
    (hc : current ≤ high) (hex : ∃ i, i ≤ high ∧ flags[i]! = false) :
    getPrior current high flags ≤ high ∧ flags[getPrior current high flags]! = false :=
  (getPrior_spec hc hex).1

theorem getNext_eq (hc : c ≤ high) (hg : Gap fl high c b) (hb : Ret fl high b) : getNext c high fl = b := by
  obtain ⟨hn, gn⟩ := getNext_spec hc ⟨b, hb⟩
  have := gn b hb
  have := hg _ hn
  omega

theorem getPrior_eq (hc : c ≤ high) (hg : Gap fl high a c) (ha : Ret fl high a) : getPrior c high fl = a := by
  obtain ⟨hp, gp⟩ := getPrior_spec hc ⟨a, ha⟩
  have := gp a ha
  have := hg _ hp
  omega

theorem prior_next (hc : Ret fl high c) : getPrior (getNext c high fl) high fl = c :=
  getPrior_eq (getNext_spec hc.1 ⟨c, hc⟩).1.1 (getNext_spec hc.1 ⟨c, hc⟩).2 hc

theorem next_prior (hc : Ret fl high c) : getNext (getPrior c high fl) high fl = c :=
  getNext_eq (getPrior_spec hc.1 ⟨c, hc⟩).1.1 (getPrior_spec hc.1 ⟨c, hc⟩).2 hc

/-- `next = prior` at one retained index means that at most two indices are retained, so it holds at both -/
theorem two_left (hc : Ret fl high c) (he : getNext c high fl = getPrior c high fl) (hi : Ret fl high i) :
    getNext i high fl = getPrior i high fl := by
  have hcp : i = c ∨ i = getNext c high fl := by
    have := (getNext_spec hc.1 ⟨c, hc⟩).2 i hi
    have := (getPrior_spec hc.1 ⟨c, hc⟩).2 i hi
    omega
  rcases hcp with rfl | rfl
  · exact he
  · rw [prior_next hc, he, next_prior hc]

theorem neighbours (hr : Ret fl high r) (hne : getNext r high fl ≠ getPrior r high fl) :
    Ret fl high (getPrior r high fl) ∧ Ret fl high (getNext r high fl) ∧
    getPrior r high fl ≠ r ∧ getNext r high fl ≠ r := by
  obtain ⟨ha, gp⟩ := getPrior_spec hr.1 ⟨r, hr⟩
  obtain ⟨hb, gn⟩ := getNext_spec hr.1 ⟨r, hr⟩
  -- were `r` its own neighbour on one side, it would be the only retained index
  have := gp _ hb
  have := gn _ ha
  exact ⟨ha, hb, by omega, by omega⟩

theorem ret_flag (hr : r < fl.size) (hi : Ret fl high i) (hir : i ≠ r) : Ret (fl.set! r true) high i :=
  ⟨hi.1, (set_true_false hr).2 ⟨hir, hi.2⟩⟩

theorem Gap.flag (hr : r < fl.size) (h : Gap fl high a b) : Gap (fl.set! r true) high a b :=
  fun j hj => h j ⟨hj.1, ((set_true_false hr).1 hj.2).2⟩

theorem Gap.join (hr : r < fl.size) (h1 : Gap fl high a r) (h2 : Gap fl high r b) :
    Gap (fl.set! r true) high a b := by
  intro j hj
  obtain ⟨hjr, hj0⟩ := (set_true_false hr).1 hj.2
  have := h1 j ⟨hj.1, hj0⟩
  have := h2 j ⟨hj.1, hj0⟩
  omega

theorem getNext_flag (hsz : fl.size = high + 1) (hr : r ≤ high) (hi : Ret fl high i) (hir : i ≠ r) :
    getNext i high (fl.set! r true) =
      if getNext i high fl = r then getNext r high fl else getNext i high fl := by
  have hlt : r < fl.size := by omega
  obtain ⟨h1, h3⟩ := getNext_spec hi.1 ⟨i, hi⟩
  split
  · next e =>
    obtain ⟨g1, g3⟩ := getNext_spec hr ⟨i, hi⟩
    have := g3 i hi  -- `i` is retained and is not `r`: `r` is not its own successor
    exact getNext_eq hi.1 (Gap.join hlt (e ▸ h3) g3) (ret_flag hlt g1 (by omega))
  · next e => exact getNext_eq hi.1 (h3.flag hlt) (ret_flag hlt h1 e)

theorem getPrior_flag (hsz : fl.size = high + 1) (hr : r ≤ high) (hi : Ret fl high i) (hir : i ≠ r) :
    getPrior i high (fl.set! r true) =
      if getPrior i high fl = r then getPrior r high fl else getPrior i high fl := by
  have hlt : r < fl.size := by omega
  obtain ⟨h1, h3⟩ := getPrior_spec hi.1 ⟨i, hi⟩
  split
  · next e =>
    obtain ⟨g1, g3⟩ := getPrior_spec hr ⟨i, hi⟩
    have := g3 i hi  -- `i` is retained and is not `r`: `r` is not its own predecessor
    exact getPrior_eq hi.1 (Gap.join hlt g3 (e ▸ h3)) (ret_flag hlt g1 (by omega))
  · next e => exact getPrior_eq hi.1 (h3.flag hlt) (ret_flag hlt h1 e)

end

section
variable {D : Type} [Inhabited D] [LE D] [DecidableRel (α := D) (· ≤ ·)] {epsSq : D} {high : Nat} {s : SimpState D}

/-- the part of the loop invariant `C16b.Inv` that says nothing about the `dsq` cache -/
structure W (high : Nat) (s : SimpState D) : Prop where
  hf : s.flags.size = high + 1
  hc : Ret s.flags high s.curr

theorem go_some {start fuel c c' : Nat} (hex : ∃ i, Ret s.flags high i) (hc : c ≤ high)
    (h : simplifyStep.go epsSq high s start c fuel = some c') : Ret s.flags high c' := by
  induction fuel generalizing c with
  | zero => unfold simplifyStep.go at h; contradiction
  | succ f ih =>
    unfold simplifyStep.go at h
    simp only at h
    have hn := (getNext_spec hc hex).1
    split at h
    · contradiction
    · split at h
      · cases h; exact hn
      · exact ih hn.1 h

variable [LT D] [DecidableRel (α := D) (· < ·)]

/-- the scan of `simplifyStep` for a vertex within ε -/
def scanOf (epsSq : D) (high : Nat) (s : SimpState D) : Option Nat :=
  if epsSq < s.dsq[s.curr]! then simplifyStep.go epsSq high s s.curr s.curr (high + 2) else some s.curr

/-- the part of `simplifyStep` that does not look at the path: the vertex `r` to remove, with the
    retained vertex `a` before it, as `(a, r)` -/
def pick (epsSq : D) (high : Nat) (s : SimpState D) : Option (Nat × Nat) :=
  match scanOf epsSq high s with
  | none => none
  | some c =>
    if getNext c high s.flags = getPrior c high s.flags then none
    else if s.dsq[getNext c high s.flags]! < s.dsq[c]! then some (c, getNext c high s.flags)
    else some (getPrior c high s.flags, c)

/-- the state after removing `r`, whose retained predecessor is `a` -/
def remove (dist : Point64 → Point64 → Point64 → D) (path : Array Point64) (closed : Bool) (high : Nat)
    (s : SimpState D) (a r : Nat) : SimpState D :=
  let prior2 := getPrior a high s.flags
  let b := getNext r high s.flags
  let flags := s.flags.set! r true
  let next := getNext b high flags
  let dsq := s.dsq
  let dsq := if closed || (b != high && b != 0) then dsq.set! b (dist path[b]! path[a]! path[next]!) else dsq
  let dsq := if closed || (a != 0 && a != high) then dsq.set! a (dist path[a]! path[prior2]! path[b]!) else dsq
  { flags := flags, dsq := dsq, curr := b }

theorem simplifyStep_eq (dist : Point64 → Point64 → Point64 → D) (path : Array Point64) (epsSq : D) (closed : Bool)
    (high : Nat) (s : SimpState D) :
    simplifyStep dist path epsSq closed high s =
      (pick epsSq high s).map fun q => remove dist path closed high s q.1 q.2 := by
  -- (`unfold` and `split` on `simplifyStep` re-derive the equations of its matchers, which is slow to check)
  show (match scanOf epsSq high s with | none => none | some c => _) =
    Option.map _ (match scanOf epsSq high s with | none => none | some c => _)
  cases scanOf epsSq high s with
  | none => rfl
  | some c =>
    show (if _ then _ else _) = Option.map _ (if _ then _ else _)
    split
    · rfl
    · by_cases hlt : s.dsq[getNext c high s.flags]! < s.dsq[c]!
      · rw [if_pos hlt, if_pos hlt]; rfl
      · rw [if_neg hlt, if_neg hlt]; rfl

theorem scan_some (hW : W high s) {c : Nat} (h : scanOf epsSq high s = some c) : Ret s.flags high c := by
  unfold scanOf at h
  split at h
  · exact go_some ⟨s.curr, hW.hc⟩ hW.hc.1 h
  · cases h; exact hW.hc

theorem pick_some (hW : W high s) {q : Nat × Nat} (h : pick epsSq high s = some q) :
    Ret s.flags high q.2 ∧ getNext q.2 high s.flags ≠ getPrior q.2 high s.flags ∧
      q.1 = getPrior q.2 high s.flags := by
  unfold pick at h
  split at h
  · contradiction
  · next c hscan =>
    have hc := scan_some hW hscan
    split at h
    · contradiction
    · next hne =>
      split at h
      · -- `next` is removed: its neighbours differ because those of `c` do
        cases h
        have hb := (neighbours hc hne).2.1
        exact ⟨hb, fun e => hne (two_left hb e hc), (prior_next hc).symm⟩
      · cases h
        exact ⟨hc, hne, rfl⟩

theorem pick_none (hW : W high s) (h : pick epsSq high s = none) :
    scanOf epsSq high s = none ∨
      ∃ c, Ret s.flags high c ∧ getNext c high s.flags = getPrior c high s.flags := by
  unfold pick at h
  split at h
  · next hscan => exact Or.inl hscan
  · next c hscan =>
    split at h
    · next he => exact Or.inr ⟨c, scan_some hW hscan, he⟩
    · split at h <;> contradiction

end

section
variable {D : Type} [LT D] [LE D] [DecidableRel (α := D) (· < ·)] [DecidableRel (α := D) (· ≤ ·)] [Inhabited D]

theorem simplify_sublist (dist : Point64 → Point64 → Point64 → D) (maxD : D) (path : Array Point64) (epsSq : D)
    (closed : Bool) : (simplifyPath dist maxD path epsSq closed).toList.Sublist path.toList := by
  unfold simplifyPath
  simp only
  split
  · exact List.Sublist.refl _
  · have hp : path.toList = (List.range path.size).map (path[·]!) := by
      apply List.ext_getElem <;> simp +contextual [getElem!_pos]
    rw [Array.toList_filterMap, Array.toList_range]
    conv => rhs; rw [hp]
    refine List.filterMap_sublist_map (fun i b h => ?_) _
    split at h
    · contradiction
    · exact (Option.some.inj h).symm

theorem simplifyStep_flags {dist : Point64 → Point64 → Point64 → D} {path : Array Point64} {epsSq : D} {closed : Bool}
    {high : Nat} {s s' : SimpState D} (h : simplifyStep dist path epsSq closed high s = some s') :
    ∃ r, s'.flags = s.flags.set! r true := by
  rw [simplifyStep_eq] at h
  obtain ⟨q, -, rfl⟩ := Option.map_eq_some_iff.mp h
  exact ⟨q.2, rfl⟩

theorem simplifyStep_flags_one (dist : Point64 → Point64 → Point64 → D) (path : Array Point64) (epsSq : D)
    (closed : Bool) (high : Nat) (s s' : SimpState D) (h : simplifyStep dist path epsSq closed high s = some s') :
    s'.flags.size = s.flags.size ∧
    (s'.flags.toList.filter (· = true)).length ≤ (s.flags.toList.filter (· = true)).length + 1 := by
  obtain ⟨r, hr⟩ := simplifyStep_flags h
  rw [hr]
  refine ⟨by simp, ?_⟩
  rw [Array.set!_eq_setIfInBounds, Array.toList_setIfInBounds]
  exact count_set _ r

end

end Proofs.C16
