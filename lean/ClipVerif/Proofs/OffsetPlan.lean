import ClipVerif.Proofs.Offset
/-
The two decisions of `InflatePaths64` (`Model.offsetPlan`) whose proof is more than an unfolding; the others are
proved in place in Props/C05.lean.  The delta and the final union of a Polygon group follow the orientation of the
path that `GetLowestPathInfo` reports (`polygon`, by `Proofs.Offset.lowest_orientation`), and every path event comes
out of the `filterMap` with its own length and end type (`path_dispatch`).
-/
namespace Proofs.OffsetPlan
open Gen Model

theorem polygon (sd : List Point64 → Bool → List Point64) (area : List Point64 → Int)
    (paths : List (List Point64)) (delta : Float) (jt : Nat) (rev pc : Bool)
    (hne : paths ≠ []) (hd : ¬ delta.abs < 0.5) (i : Nat)
    (hi : (Model.lowestPathInfo area (paths.map (fun p => sd p true))).1 = (i : Int)) :
    let neg := decide (area ((paths.map (fun p => sd p true))[i]!) < 0)
    ∃ evs, Model.offsetPlan sd area paths delta jt 0 rev pc =
      [Model.OffEv.group (if neg then -delta else delta) 0 jt (i : Int) neg] ++ evs ++
      [Model.OffEv.union (if neg then 3 else 2) (rev != neg) pc] := by
  intro neg
  obtain ⟨_, _, h2⟩ := Proofs.Offset.lowest_orientation area _ i hi
  have hnn : ¬ ((i : Int) < 0) := by omega
  have hge : decide ((i : Int) ≥ 0) = true := by simp
  unfold Model.offsetPlan
  rw [List.isEmpty_eq_false_iff.2 hne]
  simp only [Bool.false_eq_true, if_false]
  rw [if_neg hd]
  simp only [true_or, decide_true, if_true, if_false, true_and, hi, h2, hge, Bool.true_and, hnn,
    Bool.decide_eq_true]
  exact ⟨_, rfl⟩

theorem path_dispatch (sd : List Point64 → Bool → List Point64) (area : List Point64 → Int)
    (paths : List (List Point64)) (delta : Float) (jt et : Nat) (rev pc : Bool) (cnt e : Nat) (pts : List Point64)
    (h : Model.OffEv.path cnt e pts ∈ Model.offsetPlan sd area paths delta jt et rev pc) :
    cnt = pts.length ∧ 1 ≤ cnt ∧
    e = (if cnt = 2 ∧ et = 1 then (if jt = 3 then 4 else 3) else et) := by
  revert h
  unfold Model.offsetPlan
  refine iteInduction (motive := fun l => _ ∈ l → _) (fun _ h => nomatch h) fun _ => ?_
  extract_lets joined inPaths lr evPaths
  generalize (if et = 0 then _ else _ : Int × Bool) = lw
  refine iteInduction (motive := fun l => _ ∈ l → _) (fun _ h => ?_) fun _ h => ?_
  · cases List.mem_singleton.mp h
  · -- a path event is neither the group nor the union event: it comes out of the `filterMap`
    simp only [List.mem_append, List.mem_singleton, reduceCtorEq, false_or, or_false, evPaths,
      List.mem_filterMap] at h
    obtain ⟨p, _, hp⟩ := h
    revert hp
    refine iteInduction (motive := fun o => o = some _ → _) (fun _ hp => nomatch hp) fun h0 => ?_
    refine iteInduction (motive := fun o => o = some _ → _) (fun h1 hp => ?_) fun _ hp => ?_
    · cases hp
      exact ⟨h1.symm, Nat.le_refl 1, by simp⟩
    · cases hp
      exact ⟨rfl, Nat.pos_of_ne_zero h0, rfl⟩

end Proofs.OffsetPlan
