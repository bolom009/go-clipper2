import ClipVerif.Proofs.Wind
/- The open-path branch of `intersectEdges`: the open edge's contribution toggles exactly when the
   keep predicate changes across the closed edge (Props/C09.lean). The edges left of the closed edge
   have to be well-formed (`∀ a ∈ pre, WF a`): under EvenOdd the stored parity is the parity of the
   number of closed edges, which is the parity of the winding number only when every direction is
   ±1 (`needs_wf_pre`). -/
namespace Proofs.WindOpen
open Gen Spec Model Proofs.C09 Proofs.Wind

/-- `openCrossToggles` as a function of what it looks at: whether the closed edge's normalised own
    count is 1 (`f`) and whether it is hot -/
def togB (ct pt : Nat) (f hot : Bool) : Bool :=
  if ct = 2 then (hot && f) else if pt = 0 then false else f

theorem fillOK_eq (fr : Nat) (c : Int) :
    (if fr = C_Positive then c == 1 else if fr = C_Negative then c == -1 else c.natAbs == 1) =
      decide (normCount fr c = 1) := by
  unfold normCount
  split
  · rfl
  · split <;> exact decide_eq_decide.2 (by omega)

theorem openCrossToggles_eq (ct fr : Nat) (e : Active) (hot : Bool) :
    openCrossToggles ct fr e hot =
      togB ct (getPolyType e) (decide (normCount fr e.windCount = 1)) hot := by
  unfold openCrossToggles
  simp only [fillOK_eq, togB, C_Union, C_Subject]
  cases hot <;> simp

/-- `a`, `b`: the closed edge's own type filled on its two sides; `v`: the other type filled -/
theorem togB_eq {ct p : Nat} (hct : ct = 1 ∨ ct = 2 ∨ ct = 3) (hp : p = 0 ∨ p = 1) :
    ∀ (a b v : Bool),
    togB ct p (a != b) ((a != b) && C01.otherLets ct p v) =
      ((if p = 0 then keepB ct a v else keepB ct v a) !=
        (if p = 0 then keepB ct b v else keepB ct v b)) := by
  rcases hct with rfl | rfl | rfl <;> rcases hp with rfl | rfl <;> decide

theorem open_edge_toggles_iff_keep_changes (ct fr : Nat) (pre : List Active) (e2 : Active)
    (hct : ct = 1 ∨ ct = 2 ∨ ct = 3) (hfr : fr ≤ 3) (hw : WF e2) (hc : isOpen e2 = false)
    (hok : EdgeOK fr pre e2) (hpre : ∀ a ∈ pre, WF a) :
    let pt := getPolyType e2
    let W := windRight pt pre
    let V := windRight (1 - pt) pre
    let keep : Int → Bool := fun w => if pt = 0 then keepOpen ct fr w V else keepOpen ct fr V w
    openCrossToggles ct fr e2 (contributing ct fr e2) = (keep W != keep (W + e2.windDx)) := by
  intro pt W V keep
  have hpre' : ∀ a ∈ pre ++ [e2], WF a :=
    List.forall_mem_append.2 ⟨hpre, List.forall_mem_singleton.2 hw⟩
  have hR : windRight pt (pre ++ [e2]) = W + e2.windDx := by
    rw [windRight_append, windRight_single, if_pos (isClosedOf_self hc)]
  rw [contributing_mkEng, openCrossToggles_eq, contributing_of_edgeOK ct hfr hw hc hok,
    (edgeOK_features hfr hw hc hok).2.1, inside_eq_filled _ hfr hpre,
    inside_eq_filled _ hfr hpre, inside_eq_filled _ hfr hpre', hR]
  simp only [keep, keepOpen_eq hct]
  exact togB_eq hct hw.2 _ _ _

def cexPre : List Active :=
  [{ windDx := 2, windCount := 2, windCount2 := 0, localMin := { PolyType := 1, IsOpen := false } }]
def cexE2 : Active :=
  { windDx := 1, windCount := 1, windCount2 := 1, localMin := { PolyType := 0, IsOpen := false } }

/-- without `∀ a ∈ pre, WF a` the statement fails (EvenOdd, Union): a clip edge of direction 2 left
    of the closed subject edge makes the stored parity (1) differ from the parity of the winding
    number (2) -/
theorem needs_wf_pre :
    ¬ (∀ (ct fr : Nat) (pre : List Active) (e2 : Active),
        (ct = 1 ∨ ct = 2 ∨ ct = 3) → fr ≤ 3 → WF e2 → isOpen e2 = false → EdgeOK fr pre e2 →
        let pt := getPolyType e2
        let W := windRight pt pre
        let V := windRight (1 - pt) pre
        let keep : Int → Bool := fun w => if pt = 0 then keepOpen ct fr w V else keepOpen ct fr V w
        openCrossToggles ct fr e2 (contributing ct fr e2) = (keep W != keep (W + e2.windDx))) := by
  intro h
  have hw : WF cexE2 := by unfold WF; decide
  have hok : EdgeOK 0 cexPre cexE2 := by unfold EdgeOK; decide
  have := h 2 0 cexPre cexE2 (by decide) (by decide) hw (by decide) hok
  revert this
  decide

end Proofs.WindOpen
