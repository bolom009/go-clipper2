import ClipVerif.Proofs.C14
import ClipVerif.Proofs.C17
import ClipVerif.Model.PIPOp
/-
Correctness of the hand model of `pointInOpPolygon` (`Model.pointInOpPolygon`) against the
specification layer (`Spec.onPath`, `Spec.wind`).  The walk keeps, with `val`, the parity of the
crossings of the ray from `pt` towards +x, up to the bit `sideBit`; `stepI_spec` is that invariant
for one vertex, `closing_opWalk` what it makes the rest of the computation return from any state of
the walk.  `Proofs.PIP` reduces `PointInPolygon` to this model.
-/
namespace Proofs.PIPOp
open Gen Model Spec Proofs.C17 Proofs.Arith

def crossI (a b p : IPt) : Int := (b.x - a.x) * (p.y - a.y) - (p.x - a.x) * (b.y - a.y)

/-- right-crossing number (= `Spec.edgeW`) -/
def Rw (p a b : IPt) : Int :=
  if a.y ≤ p.y ∧ p.y < b.y ∧ 0 < crossI a b p then 1
  else if b.y ≤ p.y ∧ p.y < a.y ∧ crossI a b p < 0 then -1 else 0

def onSegI (a b p : IPt) : Prop :=
  crossI a b p = 0 ∧ (a.x ≤ p.x ∨ b.x ≤ p.x) ∧ (p.x ≤ a.x ∨ p.x ≤ b.x) ∧
    (a.y ≤ p.y ∨ b.y ≤ p.y) ∧ (p.y ≤ a.y ∨ p.y ≤ b.y)

def qof (p : IPt) : QPt := ⟨(p.x : Rat), (p.y : Rat)⟩

theorem cross_cast (a b p : IPt) : Spec.cross a b (qof p) = ((crossI a b p : Int) : Rat) := by
  simp only [Spec.cross, crossI, qof]
  push_cast
  ring

theorem edgeW_cast (a b p : IPt) : edgeW a b (qof p) = Rw p a b := by
  unfold edgeW Rw
  rw [cross_cast]
  simp only [qof, Int.cast_le, Int.cast_lt, Int.cast_pos, Int.cast_lt_zero]

theorem onSeg_cast (a b p : IPt) : onSeg a b (qof p) = true ↔ onSegI a b p := by
  unfold onSeg onSegI
  rw [cross_cast]
  simp only [qof, Bool.and_eq_true, beq_iff_eq, decide_eq_true_eq, min_le_iff, le_max_iff,
    Int.cast_le, Int.cast_eq_zero, and_assoc]

theorem crossI_alt (a b p : IPt) :
    crossI a b p = (b.x - p.x) * (p.y - a.y) + (a.x - p.x) * (b.y - p.y) := by
  unfold crossI; ring

theorem crossI_left_on {p q : IPt} (c : IPt) (h : q.y = p.y) :
    crossI q c p = (q.x - p.x) * (c.y - p.y) := by
  rw [crossI_alt, h, Int.sub_self, Int.mul_zero, Int.zero_add]

theorem crossI_right_on {p c : IPt} (q : IPt) (h : c.y = p.y) :
    crossI q c p = (c.x - p.x) * (p.y - q.y) := by
  rw [crossI_alt, h, Int.sub_self, Int.mul_zero, Int.add_zero]

theorem Rw_level {p q c : IPt} (h : q.y ≤ p.y ∧ c.y ≤ p.y ∨ p.y < q.y ∧ p.y < c.y) : Rw p q c = 0 := by
  unfold Rw
  rw [if_neg (by omega), if_neg (by omega)]

theorem Rw_up {p q c : IPt} (h1 : q.y ≤ p.y) (h2 : p.y < c.y) :
    Rw p q c = if 0 < crossI q c p then 1 else 0 := by
  have : ¬ (c.y ≤ p.y ∧ p.y < q.y ∧ crossI q c p < 0) := by omega
  simp only [Rw, h1, h2, true_and, this, if_false]

theorem Rw_down {p q c : IPt} (h1 : c.y ≤ p.y) (h2 : p.y < q.y) :
    Rw p q c = if crossI q c p < 0 then -1 else 0 := by
  have : ¬ (q.y ≤ p.y ∧ p.y < c.y ∧ 0 < crossI q c p) := by omega
  simp only [Rw, h1, h2, true_and, this, if_false]

/-- The state of the walk when it stands at `q`: `above` (`isAbove` in the Go source, where it means `y < p.y`)
    says on which side of the line `y = p.y` the last vertex off the line was; vertices on the line are left to
    that side. -/
def prevInv (p : IPt) (above : Bool) (q : IPt) : Prop :=
  (if above then q.y ≤ p.y else p.y ≤ q.y) ∧ (q.y = p.y → q.x ≠ p.x)

theorem prevInv_of_ne {p c : IPt} {a : Bool} (h : if a then c.y < p.y else p.y < c.y) : prevInv p a c := by
  cases a <;> simp only [prevInv, if_true, Bool.false_eq_true, if_false] at h ⊢ <;> omega

/-- the two shortcuts of the crossing test: with both end points strictly on one side of `p` in x the
    sign of `crossI` is known -/
theorem crossI_sign_of_x {p q c : IPt} {a : Bool} (hq : prevInv p a q)
    (hc : if a then p.y < c.y else c.y < p.y) :
    (p.x < c.x ∧ p.x < q.x → crossI q c p ≠ 0 ∧ (decide (crossI q c p < 0) == a) = false) ∧
    (q.x < p.x ∧ c.x < p.x → crossI q c p ≠ 0 ∧ (decide (crossI q c p < 0) == a) = true) := by
  have h1 := mul_sign (c.x - p.x) (p.y - q.y)
  have h2 := mul_sign (q.x - p.x) (c.y - p.y)
  have hq1 := hq.1
  rw [crossI_alt]
  cases a
  · simp only [Bool.false_eq_true, if_false, beq_false, Bool.not_eq_eq_eq_not, Bool.not_false, Bool.not_true,
      decide_eq_true_eq, decide_eq_false_iff_not] at hq1 hc ⊢
    omega
  · simp only [if_true, beq_true, decide_eq_true_eq, decide_eq_false_iff_not] at hq1 hc ⊢
    omega

theorem not_onSeg_same {p q c : IPt} {a : Bool} (hq : prevInv p a q)
    (hc : if a then c.y < p.y else p.y < c.y) : ¬ onSegI q c p := by
  rintro ⟨hd, _, _, hy1, hy2⟩
  have hq1 := hq.1
  have hqy : q.y = p.y := by
    cases a <;> simp only [if_true, Bool.false_eq_true, if_false] at hq1 hc <;> omega
  have := hq.2 hqy
  rw [crossI_left_on c hqy, Int.mul_eq_zero] at hd
  cases a <;> simp only [if_true, Bool.false_eq_true, if_false] at hc <;> omega

theorem onSeg_on_iff {p q c : IPt} (hq : q.y = p.y → q.x ≠ p.x) (hc : c.y = p.y) :
    onSegI q c p ↔ (c.x = p.x ∨ (c.y = q.y ∧ ¬ (p.x < q.x ↔ p.x < c.x))) := by
  rw [onSegI, crossI_right_on q hc, Int.mul_eq_zero]
  omega

theorem onSeg_other_iff {p q c : IPt} {a : Bool} (hq : prevInv p a q)
    (hc : if a then p.y < c.y else c.y < p.y) : onSegI q c p ↔ crossI q c p = 0 := by
  refine ⟨fun h => h.1, fun hd => ?_⟩
  obtain ⟨s1, s2⟩ := crossI_sign_of_x hq hc
  have s1 := fun h => (s1 h).1 hd
  have s2 := fun h => (s2 h).1 hd
  have hq1 := hq.1
  cases a <;> simp only [if_true, Bool.false_eq_true, if_false] at hq1 hc <;>
    exact ⟨hd, by omega, by omega, by omega, by omega⟩

/-- `val + sideBit` is what counts the right crossings.  The bit is 1 while the walk is on the side `p.y < y`
    (`above = false`) and 0 on the other, but for one case, which gives it away: the walk, on the side `p.y < y`,
    comes to a vertex `q` on the ray (`q.y = p.y`, `p.x < q.x`).  It leaves `val` alone until the path leaves the
    line; the half-open rule of `Spec.edgeW` has `q` on the side `y ≤ p.y` and has counted the edge into `q` as a
    crossing already, so there the bit is 0.  Left of `p` on the line no edge meets the ray, and the bit stays
    as the walk has it. -/
def sideBit (p : IPt) : Bool → IPt → Int
  | true, _ => 0
  | false, q => if q.y = p.y ∧ p.x < q.x then 0 else 1

theorem Rw_stay {p q c : IPt} {a : Bool} (hq : prevInv p a q) (hc : prevInv p a c)
    (hoff : ¬ onSegI q c p) : (sideBit p a c - sideBit p a q - Rw p q c) % 2 = 0 := by
  obtain ⟨hq1, hq2⟩ := hq
  obtain ⟨hc1, hc2⟩ := hc
  cases a
  · simp only [Bool.false_eq_true, if_false] at hq1 hc1
    by_cases hqy : q.y = p.y
    · have hqx := hq2 hqy
      by_cases hcy : c.y = p.y
      · -- a horizontal edge beside `p`: both ends on the same side of it
        have hcx := hc2 hcy
        have : ¬ ((q.x ≤ p.x ∨ c.x ≤ p.x) ∧ (p.x ≤ q.x ∨ p.x ≤ c.x)) := fun h =>
          hoff ⟨by rw [crossI_left_on c hqy, hcy, Int.sub_self, Int.mul_zero], h.1, h.2, by omega, by omega⟩
        rw [Rw_level (Or.inl ⟨hqy.le, hcy.le⟩)]
        simp only [sideBit, hqy, hcy, true_and]
        split_ifs <;> omega
      · have hd : 0 < crossI q c p ↔ p.x < q.x := by
          rw [crossI_left_on c hqy, (mul_sign _ _).1]; omega
        rw [Rw_up hqy.le (by omega)]
        simp only [sideBit, hqy, hcy, true_and, false_and, if_false, hd]
        split_ifs <;> rfl
    · by_cases hcy : c.y = p.y
      · have hd : crossI q c p < 0 ↔ p.x < c.x := by
          rw [crossI_right_on q hcy, (mul_sign _ _).2]; omega
        rw [Rw_down hcy.le (by omega)]
        simp only [sideBit, hqy, hcy, true_and, false_and, if_false, hd]
        split_ifs <;> rfl
      · rw [Rw_level (Or.inr ⟨by omega, by omega⟩)]
        simp only [sideBit, hqy, hcy, false_and, if_false]
        rfl
  · simp only [if_true] at hq1 hc1
    rw [Rw_level (Or.inl ⟨hq1, hc1⟩)]
    rfl

theorem Rw_cross {p q c : IPt} {a : Bool} (hq : prevInv p a q)
    (hc : if a then p.y < c.y else c.y < p.y) (hd : crossI q c p ≠ 0) :
    ((if (decide (crossI q c p < 0) == a) = true then (1 : Int) else 0) + sideBit p (!a) c
      - sideBit p a q - Rw p q c) % 2 = 0 := by
  obtain ⟨hq1, hq2⟩ := hq
  cases a
  · simp only [Bool.false_eq_true, if_false] at hq1 hc
    simp only [sideBit, Bool.not_false, beq_false, Bool.not_eq_eq_eq_not, Bool.not_true, decide_eq_false_iff_not]
    by_cases hqy : q.y = p.y
    · have := hq2 hqy
      have hs : crossI q c p < 0 ↔ p.x < q.x := by
        rw [crossI_left_on c hqy, (mul_sign _ _).2]; omega
      rw [Rw_level (Or.inl ⟨hqy.le, hc.le⟩)]
      simp only [hqy, true_and, hs]
      split_ifs <;> rfl
    · rw [Rw_down hc.le (by omega)]
      simp only [hqy, false_and, if_false]
      split_ifs <;> omega
  · simp only [if_true] at hq1 hc
    simp only [sideBit, Bool.not_true, beq_true, decide_eq_true_eq]
    rw [Rw_up hq1 hc]
    split_ifs <;> omega

/-- one vertex of `opWalk`, the crossing test without its two shortcuts -/
def stepI (p q c : IPt) (a : Bool) (v : Nat) : Option (Bool × Nat) :=
  if (if a then c.y < p.y else p.y < c.y) then some (a, v)
  else if c.y = p.y then
    if c.x = p.x ∨ (c.y = q.y ∧ ¬ (p.x < q.x ↔ p.x < c.x)) then none else some (a, v)
  else if crossI q c p = 0 then none
  else some (!a, if (decide (crossI q c p < 0) == a) = true then 1 - v else v)

def EdgePost (p q c : IPt) (a : Bool) (v : Nat) : Option (Bool × Nat) → Prop
  | none => onSegI q c p
  | some (a', v') => ¬ onSegI q c p ∧ v' ≤ 1 ∧ prevInv p a' c ∧
      ((v' : Int) + sideBit p a' c - v - sideBit p a q - Rw p q c) % 2 = 0

theorem stepI_spec (p q c : IPt) (a : Bool) (v : Nat) (hq : prevInv p a q) (hv : v ≤ 1) :
    EdgePost p q c a v (stepI p q c a v) := by
  unfold stepI
  by_cases hS : (if a then c.y < p.y else p.y < c.y)
  · rw [if_pos hS]
    have hoff := not_onSeg_same hq hS
    have := Rw_stay hq (prevInv_of_ne hS) hoff
    exact ⟨hoff, hv, prevInv_of_ne hS, by omega⟩
  rw [if_neg hS]
  by_cases hY : c.y = p.y
  · rw [if_pos hY]
    by_cases hC : c.x = p.x ∨ (c.y = q.y ∧ ¬ (p.x < q.x ↔ p.x < c.x))
    · rw [if_pos hC]
      exact (onSeg_on_iff hq.2 hY).2 hC
    · rw [if_neg hC]
      have hc : prevInv p a c :=
        ⟨by cases a <;> simp only [if_true, Bool.false_eq_true, if_false] <;> omega, by omega⟩
      have hoff := mt (onSeg_on_iff hq.2 hY).1 hC
      have := Rw_stay hq hc hoff
      exact ⟨hoff, hv, hc, by omega⟩
  rw [if_neg hY]
  have hO : if a then p.y < c.y else c.y < p.y := by
    cases a <;> simp only [if_true, Bool.false_eq_true, if_false] at hS ⊢ <;> omega
  by_cases hD : crossI q c p = 0
  · rw [if_pos hD]
    exact (onSeg_other_iff hq hO).2 hD
  · rw [if_neg hD]
    have := Rw_cross hq hO hD
    refine ⟨mt (onSeg_other_iff hq hO).1 hD, ?_, prevInv_of_ne (by cases a <;> exact hO), ?_⟩
    · split_ifs <;> omega
    · split_ifs at this ⊢ <;> omega

theorem toI_lt (q r : Point64) : (q.X < r.X ↔ q.toI.x < r.toI.x) ∧ (q.Y < r.Y ↔ q.toI.y < r.toI.y) :=
  ⟨Int64.lt_iff_toInt_lt, Int64.lt_iff_toInt_lt⟩

theorem toI_eq (q r : Point64) : (q.X = r.X ↔ q.toI.x = r.toI.x) ∧ (q.Y = r.Y ↔ q.toI.y = r.toI.y) :=
  ⟨Int64.toInt_inj.symm, Int64.toInt_inj.symm⟩

theorem crossZ_eq (a b p : Point64) : crossZ a b p = crossI a.toI b.toI p.toI := by
  unfold crossZ crossI Point64.toI; ring

theorem crossProduct_toI (q c p : Point64) (hq : q.inRange) (hc : c.inRange) (hp : p.inRange) :
    (CrossProduct q c p = 0 ↔ crossI q.toI c.toI p.toI = 0) ∧
    (CrossProduct q c p < 0 ↔ crossI q.toI c.toI p.toI < 0) := by
  obtain ⟨c1, c2, _⟩ := Proofs.C14.crossProduct_sign q c p hq hc hp
  rw [crossZ_eq] at c1 c2
  exact ⟨c1, c2⟩

/-- a vertex of `opWalk` is an iteration of `stepI`: the comparisons are those of the integers, the
    cross product has the exact sign, and the shortcuts agree with it by `crossI_sign_of_x` -/
theorem opWalk_cons_toI (pt prev c : Point64) (a : Bool) (v : Nat) (l : List Point64)
    (hp : pt.inRange) (hq : prev.inRange) (hc : c.inRange) (hinv : prevInv pt.toI a prev.toI) :
    opWalk pt prev a v (c :: l) =
      (stepI pt.toI prev.toI c.toI a v).bind fun r => opWalk pt c r.1 r.2 l := by
  obtain ⟨c1, c2⟩ := crossProduct_toI prev c pt hq hc hp
  rw [opWalk]
  simp only [(toI_lt _ _).1, (toI_lt _ _).2, (toI_eq _ _).1, (toI_eq _ _).2, bne_iff_ne, ne_eq,
    decide_eq_decide]
  rw [stepI]
  by_cases hS : (if a = true then c.toI.y < pt.toI.y else pt.toI.y < c.toI.y)
  · rw [if_pos hS, if_pos hS]; rfl
  rw [if_neg hS, if_neg hS]
  by_cases hY : c.toI.y = pt.toI.y
  · rw [if_pos hY, if_pos hY]
    split_ifs <;> rfl
  rw [if_neg hY, if_neg hY]
  have hO : if a then pt.toI.y < c.toI.y else c.toI.y < pt.toI.y := by
    cases a <;> simp only [if_true, Bool.false_eq_true, if_false] at hS ⊢ <;> omega
  obtain ⟨s1, s2⟩ := crossI_sign_of_x hinv hO
  simp only [opStepVal, (toI_lt _ _).1, c1, c2]
  by_cases k1 : pt.toI.x < c.toI.x ∧ pt.toI.x < prev.toI.x
  · obtain ⟨z1, z2⟩ := s1 k1
    rw [if_pos k1, if_neg z1, z2]; rfl
  rw [if_neg k1]
  by_cases k2 : prev.toI.x < pt.toI.x ∧ c.toI.x < pt.toI.x
  · obtain ⟨z1, z2⟩ := s2 k2
    rw [if_pos k2, if_neg z1, z2]; rfl
  rw [if_neg k2]
  split_ifs <;> rfl

theorem opWalk_append (pt : Point64) (l1 l2 : List Point64) (prev : Point64) (a : Bool) (v : Nat) :
    opWalk pt prev a v (l1 ++ l2) =
      match opWalk pt prev a v l1 with
      | none => none
      | some (a', v') => opWalk pt (l1.getLastD prev) a' v' l2 := by
  induction l1 generalizing prev a v with
  | nil => simp [opWalk]
  | cons c l1 ih =>
    simp only [List.cons_append, opWalk, List.getLastD_cons]
    by_cases hS : (if a = true then c.Y < pt.Y else c.Y > pt.Y)
    · rw [if_pos hS, if_pos hS, ih]
    · rw [if_neg hS, if_neg hS]
      split_ifs
      · rfl
      · rw [ih]
      · cases opStepVal pt prev c a v with
        | none => rfl
        | some v' => simp only []; rw [ih]

/-- the evaluation after the loop, `R0` the start vertex and `last` the one before it -/
def closing (pt R0 last : Point64) : Option (Bool × Nat) → Nat
  | none => 0
  | some (a, v) =>
    if a = decide (R0.Y < pt.Y) then (if v = 0 then 2 else 1)
    else
      let d := CrossProduct last R0 pt
      if d = 0 then 0
      else if (if (decide (d < 0)) == a then 1 - v else v) = 0 then 2 else 1

/-- the test on the ring `R0 :: rest` walked from `R0`, a vertex off the line through `pt` -/
def ringTest (pt R0 : Point64) (rest : List Point64) : Nat :=
  closing pt R0 (rest.getLastD R0) (opWalk pt R0 (decide (R0.Y < pt.Y)) 0 rest)

def verdict : Option (Bool × Nat) → Nat
  | none => 0
  | some (_, v) => if v = 0 then 2 else 1

theorem side_iff (R0 pt : Point64) (a : Bool) (hne : R0.Y ≠ pt.Y) :
    a = decide (R0.Y < pt.Y) ↔ (if a then R0.toI.y < pt.toI.y else pt.toI.y < R0.toI.y) := by
  have hlt := (toI_lt R0 pt).2
  have hne' := mt (toI_eq R0 pt).2.2 hne
  cases a
  · show false = decide _ ↔ pt.toI.y < R0.toI.y
    rw [eq_comm, decide_eq_false_iff_not, hlt]; omega
  · show true = decide _ ↔ R0.toI.y < pt.toI.y
    rw [eq_comm, decide_eq_true_iff, hlt]

/-- the evaluation after the loop is one more iteration, to the start vertex -/
theorem closing_eq (pt R0 last : Point64) (a : Bool) (v : Nat) (hp : pt.inRange) (hl : last.inRange)
    (hR0 : R0.inRange) (hne : R0.Y ≠ pt.Y) :
    closing pt R0 last (some (a, v)) = verdict (stepI pt.toI last.toI R0.toI a v) := by
  obtain ⟨c1, c2⟩ := crossProduct_toI last R0 pt hl hR0 hp
  have hside := side_iff R0 pt a hne
  rw [closing, stepI]
  by_cases ha : a = decide (R0.Y < pt.Y)
  · rw [if_pos ha, if_pos (hside.1 ha)]; rfl
  · rw [if_neg ha, if_neg (mt hside.2 ha), if_neg (mt (toI_eq R0 pt).2.2 hne)]
    simp only [c1, c2]
    by_cases hD : crossI last.toI R0.toI pt.toI = 0
    · rw [if_pos hD, if_pos hD]; rfl
    · rw [if_neg hD, if_neg hD]; rfl

/-- the answer of the specification read off the edges `E` still ahead of the walk, `k` having the
    parity of the crossings behind it -/
def expected (q : QPt) (k : Int) (E : List (IPt × IPt)) : Nat :=
  if E.any (fun e => onSeg e.1 e.2 q) then 0
  else if (k + (E.map fun e => edgeW e.1 e.2 q).sum) % 2 ≠ 0 then 1 else 2

theorem expected_on {p a b : IPt} (k : Int) (E : List (IPt × IPt)) (h : onSegI a b p) :
    expected (qof p) k ((a, b) :: E) = 0 := by
  rw [expected, List.any_cons, (onSeg_cast a b p).2 h]
  rfl

theorem expected_off {p a b : IPt} {k : Int} (k' : Int) (E : List (IPt × IPt)) (h : ¬ onSegI a b p)
    (hk : (k' - k - Rw p a b) % 2 = 0) :
    expected (qof p) k ((a, b) :: E) = expected (qof p) k' E := by
  have hoff : onSeg a b (qof p) = false := Bool.eq_false_iff.2 (mt (onSeg_cast a b p).1 h)
  simp only [expected, List.any_cons, hoff, Bool.false_or, List.map_cons, List.sum_cons]
  rw [edgeW_cast]
  generalize (E.map fun e => edgeW e.1 e.2 (qof p)).sum = s
  have : (k + (Rw p a b + s)) % 2 = (k' + s) % 2 := by omega
  rw [this]

/-- what the rest of the computation returns from any state of the walk: the closing edge to `R0`
    is the last of the edges ahead -/
theorem closing_opWalk (pt R0 : Point64) (hp : pt.inRange) (hR0 : R0.inRange) (hne : R0.Y ≠ pt.Y)
    (l : List Point64) (prev : Point64) (a : Bool) (v : Nat)
    (hl : ∀ q ∈ prev :: l, q.inRange) (hinv : prevInv pt.toI a prev.toI) (hv : v ≤ 1) :
    closing pt R0 (l.getLastD prev) (opWalk pt prev a v l) =
      expected (qof pt.toI)
        (v + sideBit pt.toI a prev.toI - sideBit pt.toI (decide (R0.Y < pt.Y)) R0.toI)
        ((pathToI (prev :: l)).zip (pathToI l ++ [R0.toI])) := by
  induction l generalizing prev a v with
  | nil =>
    have hs := stepI_spec pt.toI prev.toI R0.toI a v hinv hv
    rw [opWalk, List.getLastD_nil, closing_eq pt R0 prev a v hp (hl prev List.mem_cons_self) hR0 hne]
    generalize stepI pt.toI prev.toI R0.toI a v = r at hs ⊢
    obtain _ | ⟨a', v'⟩ := r
    · exact (expected_on _ _ hs).symm
    · obtain ⟨s1, s2, s3, s4⟩ := hs
      -- back at `R0` the walk is on the side it started from, so `sideBit` cancels
      have ha : a' = decide (R0.Y < pt.Y) := by
        apply (side_iff R0 pt _ hne).2
        have := s3.1
        have hne' := mt (toI_eq R0 pt).2.2 hne
        cases a' <;> simp only [if_true, Bool.false_eq_true, if_false] at this ⊢ <;> omega
      rw [← ha]
      refine ((expected_off v' [] s1 ?_).trans ?_).symm
      · omega
      · simp only [expected, verdict, List.any_nil, List.map_nil, List.sum_nil]
        split_ifs <;> omega
  | cons c l ih =>
    have hs := stepI_spec pt.toI prev.toI c.toI a v hinv hv
    rw [opWalk_cons_toI pt prev c a v l hp (hl prev List.mem_cons_self)
      (hl c (List.mem_cons_of_mem _ List.mem_cons_self)) hinv, List.getLastD_cons]
    generalize stepI pt.toI prev.toI c.toI a v = r at hs ⊢
    obtain _ | ⟨a', v'⟩ := r
    · exact (expected_on _ _ hs).symm
    · obtain ⟨s1, s2, s3, s4⟩ := hs
      rw [Option.bind_some, ih c a' v' (fun q hq => hl q (List.mem_cons_of_mem _ hq)) s3 s2]
      exact (expected_off _ _ s1 (by omega)).symm

theorem ringTest_correct (pt R0 : Point64) (rest : List Point64) (hp : pt.inRange)
    (hr : ∀ q ∈ R0 :: rest, q.inRange) (hne : R0.Y ≠ pt.Y) :
    ringTest pt R0 rest =
      if onPath (pathToI (R0 :: rest)) (qof pt.toI) then 0
      else if wind (pathToI (R0 :: rest)) (qof pt.toI) % 2 ≠ 0 then 1 else 2 := by
  rw [ringTest, closing_opWalk pt R0 hp (hr R0 List.mem_cons_self) hne rest R0 _ 0 hr
    (prevInv_of_ne ((side_iff R0 pt _ hne).1 rfl)) (by omega), Int.add_sub_cancel]
  simp only [expected, Int.natCast_zero, Int.zero_add]
  rfl

theorem pointInOpPolygon_eq (pt : Point64) (L : List Point64) (h3 : 3 ≤ L.length) (s : Nat)
    (hf : L.findIdx? (fun q => q.Y != pt.Y) = some s) :
    Model.pointInOpPolygon pt L = ringTest pt L[s]! (L.drop (s+1) ++ L.take s) := by
  have hs := (List.findIdx?_eq_some_iff_findIdx_eq.1 hf).1
  unfold Model.pointInOpPolygon
  rw [if_neg (by omega), hf]
  have hh : ∀ (x : Point64) (l : List Point64), (x :: l).head! = x := fun _ _ => rfl
  simp only [List.rotateLeft_eq_getElem!_cons L s (by omega) hs, hh, List.tail_cons, ringTest]
  cases opWalk pt L[s]! (decide (L[s]!.Y < pt.Y)) 0 (L.drop (s+1) ++ L.take s) with
  | none => rfl
  | some av => obtain ⟨a, v⟩ := av; rfl

theorem pointInOpPolygon_correct (pt : Point64) (ring : List Point64)
    (hp : pt.inRange) (hr : ∀ q ∈ ring, q.inRange) (h3 : 3 ≤ ring.length)
    (hflat : ∃ q ∈ ring, q.Y ≠ pt.Y) :
    Model.pointInOpPolygon pt ring =
      (if Spec.onPath (pathToI ring) ⟨(pt.X.toInt : Rat), (pt.Y.toInt : Rat)⟩ then 0
       else if Spec.wind (pathToI ring) ⟨(pt.X.toInt : Rat), (pt.Y.toInt : Rat)⟩ % 2 ≠ 0 then 1 else 2) := by
  obtain ⟨q, hq, hqy⟩ := hflat
  have hf := List.findIdx?_eq_some_of_exists (p := fun q => q.Y != pt.Y) ⟨q, hq, bne_iff_ne.2 hqy⟩
  generalize List.findIdx (fun q : Point64 => q.Y != pt.Y) ring = s at hf
  obtain ⟨hs, hps, _⟩ := List.findIdx?_eq_some_iff_getElem.1 hf
  have hne : ring[s]!.Y ≠ pt.Y := by
    rw [getElem!_pos ring s hs]; simpa using hps
  have hr' : ∀ q ∈ ring[s]! :: (ring.drop (s+1) ++ ring.take s), q.inRange := fun q hq =>
    hr q ((List.rotateLeft_perm ring s).subset (List.rotateLeft_eq_getElem!_cons ring s (by omega) hs ▸ hq))
  have hrot : pathToI (ring[s]! :: (ring.drop (s+1) ++ ring.take s)) =
      (pathToI ring).drop s ++ (pathToI ring).take s := by
    rw [← List.cons_append, ← List.drop_eq_getElem!_cons ring s hs]
    simp only [pathToI, List.map_append, List.map_drop, List.map_take]
  rw [pointInOpPolygon_eq pt ring h3 s hf, ringTest_correct pt ring[s]! _ hp hr' hne,
    hrot, wind_rot, onPath_rot]
  rfl

theorem pointInOpPolygon_degenerate (pt : Point64) (ring : List Point64)
    (h : ring.length < 3 ∨ ∀ q ∈ ring, q.Y = pt.Y) :
    Model.pointInOpPolygon pt ring = 2 := by
  unfold Model.pointInOpPolygon
  by_cases hl : ring.length < 3
  · rw [if_pos hl]
  · rw [if_neg hl]
    rcases h with h | h
    · exact absurd h hl
    · have : ring.findIdx? (fun q => q.Y != pt.Y) = none := by
        rw [List.findIdx?_eq_none_iff]
        intro x hx
        simp [h x hx]
      rw [this]

end Proofs.PIPOp
