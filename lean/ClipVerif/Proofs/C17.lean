import ClipVerif.Proofs.Basic
import ClipVerif.Proofs.Chain
import Mathlib.Tactic.Ring
import Mathlib.Tactic.Linarith
import Mathlib.Algebra.Order.Ring.Rat
/-
The laws of `Spec.wind` and `Spec.area2` under respelling of the input (shared by C02, C13, C17 and the
point-in-polygon proofs).  Both are sums over the cyclic edges (`wind_eq_cyc`, `area2_eq_cyc`), so a law of the path
is a law of the summand (`edgeW_swap`, `edgeW_self`, `edgeW_translate`) put through the matching lemma about `cyc` in
`Proofs.Chain`.  The lemmas on fill rules at the end are case analyses.
-/
namespace Proofs.C17
open Spec Proofs.Chain

theorem cross_swap (a b : IPt) (p : QPt) : cross b a p = - cross a b p := by
  unfold cross
  push_cast
  ring

theorem edgeW_swap (p : QPt) (a b : IPt) : edgeW b a p = - edgeW a b p := by
  unfold edgeW
  rw [cross_swap a b p]
  simp only [neg_pos, neg_lt_zero]
  by_cases hA : (a.y : Rat) ≤ p.y ∧ p.y < (b.y : Rat) ∧ 0 < cross a b p <;>
    by_cases hB : (b.y : Rat) ≤ p.y ∧ p.y < (a.y : Rat) ∧ cross a b p < 0
  · exfalso; linarith [hA.1, hA.2.1, hB.1, hB.2.1]
  · simp [hA, hB]
  · simp [hA, hB]
  · simp [hA, hB]

theorem edgeW_self (p : QPt) (a : IPt) : edgeW a a p = 0 := by
  have := edgeW_swap p a a
  omega

theorem cross_translate (a b : IPt) (dx dy : Int) (p : QPt) :
    cross ⟨a.x + dx, a.y + dy⟩ ⟨b.x + dx, b.y + dy⟩ ⟨p.x + dx, p.y + dy⟩ = cross a b p := by
  unfold cross
  push_cast
  ring

theorem edgeW_translate (a b : IPt) (dx dy : Int) (p : QPt) :
    edgeW ⟨a.x + dx, a.y + dy⟩ ⟨b.x + dx, b.y + dy⟩ ⟨p.x + dx, p.y + dy⟩ = edgeW a b p := by
  unfold edgeW
  rw [cross_translate]
  simp only [Int.cast_add, add_le_add_iff_right, add_lt_add_iff_right]

theorem wind_rot (path : List IPt) (k : Nat) (p : QPt) :
    wind (path.drop k ++ path.take k) p = wind path p :=
  List.Perm.sum_eq ((edgesOf_rot path k).map _)

theorem onPath_rot (path : List IPt) (k : Nat) (p : QPt) :
    onPath (path.drop k ++ path.take k) p = onPath path p :=
  (edgesOf_rot path k).any_eq

theorem wind_reverse (path : List IPt) (p : QPt) : wind path.reverse p = - wind path p := by
  rw [wind_eq_cyc, wind_eq_cyc]
  exact cyc_reverse_antisymm _ (edgeW_swap p) path

theorem wind_repeat_vertex (pre post : List IPt) (v : IPt) (p : QPt) :
    wind (pre ++ v :: v :: post) p = wind (pre ++ v :: post) p := by
  rw [wind_eq_cyc, wind_eq_cyc]
  exact cyc_repeat _ v (edgeW_self p v) pre post

theorem wind_closing_vertex (v : IPt) (rest : List IPt) (p : QPt) :
    wind (v :: rest ++ [v]) p = wind (v :: rest) p := by
  rw [wind_eq_cyc, wind_eq_cyc]
  exact cyc_closing _ v (edgeW_self p v) rest

theorem windS_perm (a b : List (List IPt)) (h : a.Perm b) (p : QPt) : windS a p = windS b p :=
  List.Perm.sum_eq (h.map _)

theorem windS_reverse_all (a : List (List IPt)) (p : QPt) :
    windS (a.map List.reverse) p = - windS a p := by
  unfold windS
  induction a with
  | nil => simp
  | cons q a ih =>
    simp only [List.map_cons, List.sum_cons] at ih ⊢
    rw [ih, wind_reverse]; omega

theorem wind_translate (path : List IPt) (dx dy : Int) (p : QPt) :
    wind (path.map fun v => ⟨v.x + dx, v.y + dy⟩) ⟨p.x + dx, p.y + dy⟩ = wind path p := by
  rw [wind_eq_cyc, wind_eq_cyc, cyc_map]
  simp only [edgeW_translate]

theorem area2_reverse (path : List IPt) : area2 path.reverse = - area2 path := by
  rw [area2_eq_cyc, area2_eq_cyc]
  apply cyc_reverse_antisymm
  intro a b
  ring

theorem area2_translate (path : List IPt) (dx dy : Int) :
    area2 (path.map fun v => ⟨v.x + dx, v.y + dy⟩) = area2 path := by
  rw [area2_eq_cyc, area2_eq_cyc, cyc_map]
  have h : ∀ a b : IPt,
      (a.y + dy + (b.y + dy)) * (a.x + dx - (b.x + dx)) =
        (a.y + b.y) * (a.x - b.x) + ((2 * dy * a.x) - (2 * dy * b.x)) := by
    intro a b; ring
  simp only [h]
  rw [cyc_add, cyc_telescope (fun v : IPt => 2 * dy * v.x)]
  omega

theorem filled_neg (w : Int) :
    filled 0 (-w) = filled 0 w ∧ filled 1 (-w) = filled 1 w ∧ filled 2 (-w) = filled 3 w ∧
      filled 3 (-w) = filled 2 w := by
  simp only [filled, Int.neg_emod_two, bne, beq_eq_decide, Int.neg_eq_zero, Int.neg_pos, Int.neg_neg_iff_pos,
    and_self]

theorem specIn_swap (ct fr : Nat) (wS wC : Int) (h : ct = 1 ∨ ct = 2 ∨ ct = 4) :
    specIn ct fr wS wC = specIn ct fr wC wS := by
  unfold specIn
  rcases h with h | h | h <;> subst h <;> simp only [combine]
  · exact Bool.and_comm _ _
  · exact Bool.or_comm _ _
  · cases filled fr wS <;> cases filled fr wC <;> rfl

theorem specIn_reverse_all (ct : Nat) (wS wC : Int) :
    specIn ct 2 (-wS) (-wC) = specIn ct 3 wS wC ∧ specIn ct 3 (-wS) (-wC) = specIn ct 2 wS wC ∧
    specIn ct 0 (-wS) (-wC) = specIn ct 0 wS wC ∧ specIn ct 1 (-wS) (-wC) = specIn ct 1 wS wC := by
  obtain ⟨a0, a1, a2, a3⟩ := filled_neg wS
  obtain ⟨b0, b1, b2, b3⟩ := filled_neg wC
  unfold specIn
  rw [a0, a1, a2, a3, b0, b1, b2, b3]
  exact ⟨rfl, rfl, rfl, rfl⟩

end Proofs.C17
