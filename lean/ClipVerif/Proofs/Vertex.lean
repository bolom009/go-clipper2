import ClipVerif.Model.Vertex
import ClipVerif.Proofs.Dedup
import ClipVerif.Proofs.Basic
/-
`Model.vertexRing` on a closed path: the flags mark the turning points, the minima are listed in index order,
and there are as many minima as maxima.

The ring of `n` vertices is read as a periodic sequence: `yv pts k` is the height of vertex `k % n`, and
`dirUp pts k` says whether that vertex is reached going up or down: the direction of the last non-flat edge
before it, cyclically (`prevDiffY` finds that edge).  `dirUp` obeys the recurrence `dir_next`, in which the
next vertex is simply `k + 1`; the loop's `goingUp` obeys it too and is `dirUp` of `prev`.  The flag a vertex
ends up with depends only on the pair `dirUp k`, `dirUp (k + 1)` (`flagOf`), and the step after the loop is one
more step of the loop (`mark`).  `InvR pts m r` says that the vertices `< m` have their final flags;
`ring_final` gives `InvR r.pts r.pts.size r`, from which `Props/C01` reads off the four results.
-/
namespace Proofs.Vertex
open Gen Model Proofs.Dedup

def differing (a b : Int64) : Option Int64 := if a != b then some a else none

/-- the nearest of `f (j - 1), …, f (j - len)` that differs from `f j` -/
def lookBack (f : Nat → Int64) (j len : Nat) : Option Int64 :=
  (List.range' 1 len).findSome? fun d => differing (f (j - d)) (f j)

theorem lookBack_succ (f : Nat → Int64) (j len : Nat) :
    lookBack f (j + 1) (len + 1) = if f j != f (j + 1) then some (f j) else lookBack f j len := by
  rw [lookBack, List.range'_succ, List.findSome?_cons, Nat.add_sub_cancel, differing]
  by_cases h : (f j != f (j + 1)) = true
  · rw [if_pos h, if_pos h]
  · rw [if_neg h, if_neg h, ← List.map_add_range' 1 len 1, List.findSome?_map]
    apply List.findSome?_congr
    intro d _
    simp only [Function.comp, Nat.add_comm 1 d, Nat.add_sub_add_right]
    rw [show f j = f (j + 1) by simpa using h]

theorem lookBack_last (f : Nat → Int64) (j len : Nat) (h : f (j - (len + 1)) = f j) :
    lookBack f j (len + 1) = lookBack f j len := by
  rw [lookBack, List.range'_1_concat, List.findSome?_append, List.findSome?_cons, Nat.add_comm 1 len, h,
    differing, bne_self_eq_false]
  exact Option.or_none

theorem prevDiffY_mod (ys : Array Int64) (j : Nat) :
    prevDiffY ys (j % ys.size) = lookBack (fun k => ys[k % ys.size]!) (j + ys.size) (ys.size - 1) := by
  rw [prevDiffY, List.range_eq_range', List.drop_range']
  apply List.findSome?_congr
  intro d hd
  have hd' : d ≤ ys.size := by have := (List.mem_range'_1.1 hd).2; omega
  simp only [differing, Nat.add_mod_right, Nat.add_sub_assoc hd', Nat.mod_add_mod]

theorem prevDiffY_next (ys : Array Int64) (j : Nat) (hn : 2 ≤ ys.size) :
    prevDiffY ys ((j + 1) % ys.size) =
      if ys[j % ys.size]! != ys[(j + 1) % ys.size]! then some ys[j % ys.size]! else prevDiffY ys (j % ys.size) := by
  obtain ⟨m, hm⟩ : ∃ m, ys.size - 1 = m + 1 := ⟨ys.size - 2, by omega⟩
  rw [prevDiffY_mod, prevDiffY_mod, hm, Nat.add_right_comm, lookBack_succ]
  simp only [Nat.add_mod_right, Nat.add_right_comm j ys.size 1]
  split
  · rfl
  · next h =>
    -- the farthest vertex seen from `j` is the one after `j`, level with it
    rw [lookBack_last]
    rw [show j + ys.size - (m + 1) = j + 1 by omega, Nat.add_mod_right]
    exact Eq.symm (by simpa using h)

theorem orFlag_size (fl : Array Nat) (i f : Nat) : (orFlag fl i f).size = fl.size := by
  simp [orFlag]

theorem orFlag_get (fl : Array Nat) (i f j : Nat) (hi : i < fl.size) :
    (orFlag fl i f)[j]! = if j = i then fl[i]! ||| f else fl[j]! := by
  unfold orFlag
  by_cases h : j = i
  · rw [if_pos h, h, Array.getElem!_set!_self fl i _ hi]
  · rw [if_neg h, Array.getElem!_set!_ne fl i j _ (Ne.symm h)]

def ysOf (pts : Array Point64) : Array Int64 := pts.map (·.Y)

theorem ysOf_size (pts : Array Point64) : (ysOf pts).size = pts.size := by simp [ysOf]

theorem ysOf_get (pts : Array Point64) (k : Nat) : (ysOf pts)[k]! = pts[k]!.Y := by
  rw [ysOf, getElem!_def, getElem!_def, Array.getElem?_map]
  cases pts[k]? <;> rfl

def yv (pts : Array Point64) (k : Nat) : Int := pts[k % pts.size]!.Y.toInt

theorem yv_of_lt {pts : Array Point64} {k : Nat} (h : k < pts.size) : yv pts k = pts[k]!.Y.toInt := by
  rw [yv, Nat.mod_eq_of_lt h]

/-- vertex `k % n` is reached going up: the last non-flat edge before it (cyclically) goes up (Y decreases) -/
def dirUp (pts : Array Point64) (k : Nat) : Bool :=
  match prevDiffY (ysOf pts) (k % pts.size) with
  | some p => decide (yv pts k < p.toInt)
  | none => false

/-- the ring is not flat as seen from vertex `k % n`: `prevDiffY` finds a height there.  That it differs from the
height of the vertex follows, and is carried along to save unfolding `prevDiffY` again. -/
def HasPrev (pts : Array Point64) (k : Nat) : Prop :=
  ∃ p, prevDiffY (ysOf pts) (k % pts.size) = some p ∧ p.toInt ≠ yv pts k

theorem dirUp_size (pts : Array Point64) : dirUp pts pts.size = dirUp pts 0 := by
  rw [dirUp, dirUp, yv, yv, Nat.mod_self, Nat.zero_mod]

/-- the direction after an edge from height `a` to height `b`, having arrived in direction `g`, as the loop
decides it -/
def turnDir (g : Bool) (a b : Int) : Bool := if a < b ∧ g then false else if b < a ∧ !g then true else g

theorem turnDir_eq (g : Bool) (a b : Int) : turnDir g a b = if a ≠ b then decide (b < a) else g := by
  unfold turnDir
  by_cases hab : a = b
  · rw [hab, if_neg (fun h => Int.lt_irrefl b h.1), if_neg (fun h => Int.lt_irrefl b h.1), if_neg (fun h => h rfl)]
  · rw [if_pos hab]
    cases g
    · simp
    · rw [Bool.eq_iff_iff]; simp; omega

theorem turnDir_self (g : Bool) (a b : Int) : turnDir g a b = g ↔ if g then b ≤ a else a ≤ b := by
  cases g <;> simp [turnDir]

theorem dir_next (pts : Array Point64) (j : Nat) (hn : 2 ≤ pts.size) :
    (HasPrev pts j → HasPrev pts (j + 1)) ∧
    dirUp pts (j + 1) = turnDir (dirUp pts j) (yv pts j) (yv pts (j + 1)) := by
  have h := prevDiffY_next (ysOf pts) j (by rw [ysOf_size]; exact hn)
  rw [ysOf_size, ysOf_get, ysOf_get] at h
  rw [turnDir_eq]
  by_cases heq : yv pts j = yv pts (j + 1)
  · rw [Int64.toInt_inj.1 heq, bne_self_eq_false, if_neg Bool.false_ne_true] at h
    rw [if_neg (not_not_intro heq), dirUp, dirUp, h, ← heq]
    exact ⟨fun ⟨p, hp1, hp2⟩ => ⟨p, hp1 ▸ h, heq ▸ hp2⟩, rfl⟩
  · rw [if_pos (bne_iff_ne.2 fun c => heq (congrArg Int64.toInt c))] at h
    rw [if_pos heq]
    exact ⟨fun _ => ⟨_, h, heq⟩, by rw [dirUp, h]; rfl⟩

theorem hasPrev_all (pts : Array Point64) (hn : 2 ≤ pts.size) (h0 : HasPrev pts 0) : ∀ j, HasPrev pts j
  | 0 => h0
  | j + 1 => (dir_next pts j hn).1 (hasPrev_all pts hn h0 j)

/-- the flag of a vertex reached in direction `g` and left in direction `g'` (LocalMin 8, LocalMax 4) -/
def flagOf (g g' : Bool) : Nat := if !g && g' then 8 else if g && !g' then 4 else 0

/-- what the loop does to the vertex `k` it leaves -/
def mark (r : VRing) (k : Nat) (g g' : Bool) : VRing :=
  if !g && g' then addLocMin r k else if g && !g' then { r with flags := orFlag r.flags k 4 } else r

theorem mark_spec (r : VRing) (k : Nat) (g g' : Bool) (hk : k < r.flags.size) (h0 : r.flags[k]! = 0) :
    (mark r k g g').pts = r.pts ∧ (mark r k g g').flags.size = r.flags.size ∧
    (∀ j, (mark r k g g').flags[j]! = if j = k then flagOf g g' else r.flags[j]!) ∧
    (mark r k g g').minima = r.minima ++ if !g && g' then [k] else [] := by
  have e : addLocMin r k = { r with flags := orFlag r.flags k 8, minima := r.minima ++ [k] } := by
    rw [addLocMin, h0]; rfl
  have hor : ∀ f j, (orFlag r.flags k f)[j]! = if j = k then f else r.flags[j]! := by
    intro f j; rw [orFlag_get _ _ _ _ hk, h0, Nat.zero_or]
  have hid : ∀ j, r.flags[j]! = if j = k then 0 else r.flags[j]! := by
    intro j; split
    · subst j; exact h0
    · rfl
  cases g <;> cases g'
  · exact ⟨rfl, rfl, hid, (List.append_nil _).symm⟩
  · rw [show mark r k false true = addLocMin r k from rfl, e]
    exact ⟨rfl, orFlag_size _ _ _, hor 8, rfl⟩
  · exact ⟨rfl, orFlag_size _ _ _, hor 4, (List.append_nil _).symm⟩
  · exact ⟨rfl, rfl, hid, (List.append_nil _).symm⟩

theorem vertexLoop_cons (r : VRing) (g : Bool) (p k : Nat) (rest : List Nat) (hp : p < r.pts.size)
    (hk : k < r.pts.size) :
    vertexLoop r g p (k :: rest) =
      vertexLoop (mark r p g (turnDir g (yv r.pts p) (yv r.pts k)))
        (turnDir g (yv r.pts p) (yv r.pts k)) k rest := by
  rw [vertexLoop, turnDir, yv_of_lt hp, yv_of_lt hk]
  simp only [gt_iff_lt, Int64.lt_iff_toInt_lt]
  split
  · next c => rw [c.2]; rfl
  · split
    · next c => rw [show g = false by simpa using c.2]; rfl
    · cases g <;> rfl

/-- ring state after the vertices `< m` received their final flags -/
structure InvR (pts : Array Point64) (m : Nat) (r : VRing) : Prop where
  pts_eq : r.pts = pts
  size_eq : r.flags.size = pts.size
  flags_eq : ∀ k, r.flags[k]! = if k < m then flagOf (dirUp pts k) (dirUp pts (k + 1)) else 0
  minima_eq : r.minima = (List.range m).filter (fun k => !dirUp pts k && dirUp pts (k + 1))

theorem InvR.mark {pts : Array Point64} {m : Nat} {r : VRing} (h : InvR pts m r) (hm : m < pts.size) :
    InvR pts (m + 1) (mark r m (dirUp pts m) (dirUp pts (m + 1))) := by
  obtain ⟨e1, e2, e3, e4⟩ := mark_spec r m (dirUp pts m) (dirUp pts (m + 1))
    (by rw [h.size_eq]; exact hm) (by rw [h.flags_eq, if_neg (Nat.lt_irrefl m)])
  refine ⟨e1.trans h.pts_eq, e2.trans h.size_eq, fun k => ?_, ?_⟩
  · rw [e3, h.flags_eq]
    by_cases hk : k = m
    · rw [if_pos hk, if_pos (by omega), hk]
    · rw [if_neg hk]
      exact ite_cond_congr (propext (by omega))
  · rw [e4, h.minima_eq, List.range_succ, List.filter_append, List.filter_cons, List.filter_nil]

theorem vertexLoop_inv (pts : Array Point64) (hn : 2 ≤ pts.size) (len : Nat) {m : Nat} {r : VRing} (h : InvR pts m r)
    (hm : m + len < pts.size) :
    ∃ r', vertexLoop r (dirUp pts m) m (List.range' (m + 1) len) = (r', dirUp pts (m + len), m + len) ∧
      InvR pts (m + len) r' := by
  induction len generalizing m r with
  | zero => exact ⟨r, rfl, h⟩
  | succ len ih =>
    rw [List.range'_succ, vertexLoop_cons _ _ _ _ _ (by rw [h.pts_eq]; omega) (by rw [h.pts_eq]; omega),
      h.pts_eq, ← (dir_next pts m hn).2, show m + (len + 1) = m + 1 + len by omega]
    exact ih (h.mark (by omega)) (by omega)

theorem unclose_eq (d : List Point64) : (if d.getLast! = d.head! then d.dropLast else d) = unclose d := by
  cases d with
  | nil => rfl
  | cons a t =>
    simp only [unclose, List.getLast!_eq_getLast?_getD, List.getLast?_cons, List.head?_cons, Option.getD_some,
      Option.some.injEq]
    rfl

theorem reverse_range'_one (len : Nat) :
    (List.range' 1 len).reverse = (List.range' 1 len).map (fun d => len + 1 - d) := by
  apply List.ext_getElem
  · simp
  · intro i h1 h2
    simp at h1
    simp
    omega

/-- The loop's start direction, found by walking back from vertex 0, is the direction in which vertex 0
is reached: the walk is the search of `prevDiffY` at 0. -/
theorem start_dir (pts : Array Point64) (hn : 2 ≤ pts.size) (k : Nat)
    (hk : ((List.range pts.size).drop 1).reverse.find? (fun k => pts[k]!.Y != pts[0]!.Y) = some k) :
    k < pts.size ∧ pts[k]!.Y ≠ pts[0]!.Y ∧ HasPrev pts 0 ∧
    dirUp pts 0 = decide (pts[k]!.Y > pts[0]!.Y) := by
  have hq : pts[k]!.Y ≠ pts[0]!.Y := by simpa using List.find?_some hk
  have hmem := List.mem_of_find?_eq_some hk
  rw [List.mem_reverse, List.range_eq_range', List.drop_range', List.mem_range'_1] at hmem
  have key : prevDiffY (ysOf pts) (0 % pts.size) = some pts[k]!.Y := by
    have e := prevDiffY_mod (ysOf pts) 0
    rw [ysOf_size] at e
    rw [e, ← Option.map_some (f := fun k : Nat => pts[k]!.Y), ← hk, List.range_eq_range', List.drop_range',
      reverse_range'_one, List.find?_map, Option.map_map, List.find?_eq_findSome?_guard, List.map_findSome?]
    apply List.findSome?_congr
    intro x hx
    rw [List.mem_range'_1] at hx
    show differing (ysOf pts)[(0 + pts.size - x) % pts.size]! (ysOf pts)[(0 + pts.size) % pts.size]! = _
    rw [ysOf_get, ysOf_get, Function.comp, Option.map_guard, Nat.zero_add, Nat.mod_self,
      Nat.mod_eq_of_lt (by omega), Nat.sub_add_cancel (by omega)]
    rfl
  refine ⟨by omega, hq, ⟨_, key, fun c => hq (Int64.toInt_inj.1 c)⟩, ?_⟩
  rw [dirUp, key, yv, Nat.zero_mod]
  simp only [gt_iff_lt, Int64.lt_iff_toInt_lt]

theorem invR_init (pts : Array Point64) :
    InvR pts 0 { pts := pts, flags := Array.replicate pts.size 0, minima := [] } where
  pts_eq := rfl
  size_eq := Array.size_replicate
  flags_eq := fun _ => Array.getElem!_replicate_default _ _
  minima_eq := rfl

/-- what `vertexRing path false = some r` says of `r` -/
structure Final (path : List Point64) (r : VRing) : Prop where
  pts_eq : r.pts = (unclose (dedupAdjacent path)).toArray
  two_le : 2 ≤ r.pts.size
  not_flat : ∃ k, k < r.pts.size ∧ r.pts[k]!.Y ≠ r.pts[0]!.Y
  hasPrev : ∀ i, HasPrev r.pts i
  inv : InvR r.pts r.pts.size r

theorem ring_final (path : List Point64) (r : VRing) (h : vertexRing path false = some r) : Final path r := by
  unfold vertexRing at h
  simp only [Bool.not_false, true_and, Bool.false_eq_true, if_false] at h
  by_cases c1 : (dedupConsecutive path).length < 2
  · rw [if_pos c1] at h; cases h
  rw [if_neg c1, unclose_eq, dedupConsecutive_eq] at h
  by_cases c2 : (unclose (dedupAdjacent path)).length < 2
  · rw [if_pos c2] at h; cases h
  rw [if_neg c2] at h
  obtain ⟨pts, hpts⟩ : ∃ pts, pts = (unclose (dedupAdjacent path)).toArray := ⟨_, rfl⟩
  rw [← List.size_toArray, ← hpts] at c2
  rw [← hpts] at h
  have hn : 2 ≤ pts.size := by omega
  split at h
  · cases h
  · next k hk =>
    obtain ⟨s1, s2, s3, s4⟩ := start_dir pts hn k hk
    obtain ⟨r', hl', hi⟩ := vertexLoop_inv pts hn (pts.size - 1) (invR_init pts) (by omega)
    -- the step after the loop leaves vertex `size - 1` towards vertex 0, whose direction is `g0`, and does to
    -- it what the loop would have done, had it gone on to vertex 0
    have hm := hi.mark (by omega)
    rw [show 0 + (pts.size - 1) + 1 = pts.size by omega, dirUp_size] at hm
    rw [← s4, List.range_eq_range', List.drop_range', hl'] at h
    have e : r = mark r' (0 + (pts.size - 1)) (dirUp pts (0 + (pts.size - 1))) (dirUp pts 0) := by
      generalize dirUp pts (0 + (pts.size - 1)) = up at h ⊢
      generalize dirUp pts 0 = g0 at h ⊢
      cases up <;> cases g0 <;> exact (Option.some.inj h).symm
    have hp := hm.pts_eq
    rw [← e] at hm hp
    rw [← hp] at hpts hn s1 s2 s3 hm
    exact ⟨hpts, hn, ⟨k, s1, s2⟩, hasPrev_all _ hn s3, hm⟩

theorem InvR.bits {pts : Array Point64} {r : VRing} (h : InvR pts pts.size r) {k : Nat} (hk : k < pts.size) :
    (r.flags[k]! &&& 8 != 0) = (!dirUp pts k && dirUp pts (k + 1)) ∧
    (r.flags[k]! &&& 4 != 0) = (dirUp pts k && !dirUp pts (k + 1)) ∧ r.flags[k]! &&& 3 = 0 := by
  rw [h.flags_eq, if_pos hk]
  cases dirUp pts k <;> cases dirUp pts (k + 1) <;> decide

theorem minmax_iff (pts : Array Point64) (i : Nat) (hi : i < pts.size) (hn : 2 ≤ pts.size) (hg : HasPrev pts i) :
    (isLocalMinAt (ysOf pts) i = true ↔ (!dirUp pts i && dirUp pts (i + 1)) = true) ∧
    (isLocalMaxAt (ysOf pts) i = true ↔ (dirUp pts i && !dirUp pts (i + 1)) = true) := by
  obtain ⟨p, hp1, hp2⟩ := hg
  rw [(dir_next pts i hn).2, turnDir_eq, dirUp, yv, yv, hp1, isLocalMinAt, isLocalMaxAt, ysOf_size, ysOf_get, ysOf_get]
  rw [yv, Nat.mod_eq_of_lt hi] at hp2
  rw [Nat.mod_eq_of_lt hi] at hp1 ⊢
  rw [hp1]
  simp only [Bool.and_eq_true, Bool.not_eq_true', decide_eq_true_eq, decide_eq_false_iff_not, gt_iff_lt,
    Int64.lt_iff_toInt_lt]
  constructor <;> split <;> simp only [decide_eq_true_eq, decide_eq_false_iff_not] <;> omega

/-- along `0 … n` a Boolean sequence rises as often as it falls, up to its two ends -/
theorem trans_count (b : Nat → Bool) (n : Nat) :
    ((List.range n).filter (fun k => !b k && b (k + 1))).length + (b 0).toNat =
      ((List.range n).filter (fun k => b k && !b (k + 1))).length + (b n).toNat := by
  induction n with
  | zero => rfl
  | succ n ih =>
    simp only [List.range_succ, List.filter_append, List.length_append, List.filter_cons, List.filter_nil]
    cases h1 : b n <;> cases h2 : b (n + 1) <;> rw [h1] at ih <;> simp at ih ⊢ <;> omega

theorem rises_eq_falls (pts : Array Point64) :
    ((List.range pts.size).filter (fun k => !dirUp pts k && dirUp pts (k + 1))).length =
      ((List.range pts.size).filter (fun k => dirUp pts k && !dirUp pts (k + 1))).length := by
  have h := trans_count (dirUp pts) pts.size
  rw [dirUp_size] at h
  omega

theorem const_of_antitone (f : Nat → Int) (n : Nat) (hs : ∀ k, k < n → f (k + 1) ≤ f k) (hp : f n = f 0) :
    ∀ k, k ≤ n → f k = f 0 := by
  have anti : ∀ i j, i ≤ j → j ≤ n → f j ≤ f i := by
    intro i j hij
    induction hij with
    | refl => exact fun _ => Int.le_refl _
    | step _ ih => exact fun hj => Int.le_trans (hs _ (by omega)) (ih (by omega))
  intro k hk
  have := anti 0 k (Nat.zero_le k) hk
  have := anti k n hk (Nat.le_refl n)
  omega

theorem flat_of_const_dir (pts : Array Point64) (hn : 2 ≤ pts.size)
    (hc : ∀ k, k ≤ pts.size → dirUp pts k = dirUp pts 0) :
    ∀ k, k ≤ pts.size → yv pts k = yv pts 0 := by
  have hstep : ∀ k, k < pts.size →
      if dirUp pts 0 then yv pts (k + 1) ≤ yv pts k else yv pts k ≤ yv pts (k + 1) := by
    intro k hk
    rw [← turnDir_self, ← hc k (by omega), ← (dir_next pts k hn).2, hc k (by omega)]
    exact hc (k + 1) hk
  have hp : yv pts pts.size = yv pts 0 := by rw [yv, yv, Nat.mod_self, Nat.zero_mod]
  -- all non-flat edges go the same way, so the heights never rise (or never fall) round the ring
  cases hb : dirUp pts 0 <;> simp only [hb, if_true, if_false, Bool.false_eq_true] at hstep
  · intro k hk
    have := const_of_antitone (fun k => - yv pts k) pts.size (fun k hk => by have := hstep k hk; omega)
      (by omega) k hk
    omega
  · exact const_of_antitone (yv pts) pts.size hstep hp

theorem exists_rise (pts : Array Point64) (hn : 2 ≤ pts.size) (hk : ∃ k, k < pts.size ∧ pts[k]!.Y ≠ pts[0]!.Y) :
    ∃ k, k < pts.size ∧ (!dirUp pts k && dirUp pts (k + 1)) = true := by
  apply Classical.byContradiction
  intro hno
  -- no rise: the direction, read as 0 or 1, never goes up round the ring, so it never changes, and the ring is flat
  have hdir : ∀ k, k ≤ pts.size → dirUp pts k = dirUp pts 0 := by
    intro k hk
    have h := const_of_antitone (fun k => if dirUp pts k then 1 else 0) pts.size (fun j hj => ?_)
      (by simp only [dirUp_size]) k hk
    · revert h
      cases dirUp pts k <;> cases dirUp pts 0 <;> decide
    · have := fun hr => hno ⟨j, hj, hr⟩
      revert this
      cases dirUp pts j <;> cases dirUp pts (j + 1) <;> decide
  obtain ⟨k, hk1, hk2⟩ := hk
  have := flat_of_const_dir pts hn hdir k (by omega)
  rw [yv_of_lt hk1, yv_of_lt (by omega)] at this
  exact hk2 (Int64.toInt_inj.1 this)

end Proofs.Vertex
