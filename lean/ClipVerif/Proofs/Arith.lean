import ClipVerif.Model.Conv
/-
Arithmetic that is about no model.  First: when 64-bit subtraction and multiplication do not wrap
(`Int64` against `toInt`), and the sign of an integer product.  Second: the integer model `F` of
float64 values (Prelude): rounding to 53 significant bits is the identity up to 2^53, keeps sign and
zero, and hits 1 only at 1.  Core Lean only.
-/
namespace Proofs.Arith
open Gen

theorem sub_toInt {p q : Point64} (hp : p.inRange) (hq : q.inRange) :
    (p.X - q.X).toInt = p.X.toInt - q.X.toInt ∧ (p.Y - q.Y).toInt = p.Y.toInt - q.Y.toInt := by
  unfold Point64.inRange at hp hq
  rw [Int64.toInt_sub, Int64.toInt_sub]
  exact ⟨Int.bmod_eq_of_le (by omega) (by omega), Int.bmod_eq_of_le (by omega) (by omega)⟩

theorem sub_shift (a b v : Int64) : (a + v) - (b + v) = a - b := by
  rw [Int64.add_comm b v, ← Int64.sub_sub, Int64.add_sub_cancel]

theorem max_toInt (a b : Int64) : (max a b).toInt = max a.toInt b.toInt := by
  show (if a ≤ b then b else a).toInt = _
  simp only [Int64.le_iff_toInt_le]
  split <;> omega

theorem min_toInt (a b : Int64) : (min a b).toInt = min a.toInt b.toInt := by
  show (if a ≤ b then a else b).toInt = _
  simp only [Int64.le_iff_toInt_le]
  split <;> omega

theorem mul_sign (u w : Int) :
    (0 < u * w ↔ 0 < u ∧ 0 < w ∨ u < 0 ∧ w < 0) ∧ (u * w < 0 ↔ 0 < u ∧ w < 0 ∨ u < 0 ∧ 0 < w) := by
  have h1 := Lean.Grind.OrderedRing.mul_pos_iff (a := u) (b := w)
  have h2 := Lean.Grind.OrderedRing.mul_pos_iff (a := -u) (b := w)
  rw [Int.neg_mul] at h2
  exact ⟨h1, by omega⟩

theorem mul_sign_congr {x y x' y' : Int}
    (hx : (x = 0 ↔ x' = 0) ∧ (x < 0 ↔ x' < 0) ∧ (x > 0 ↔ x' > 0))
    (hy : (y = 0 ↔ y' = 0) ∧ (y < 0 ↔ y' < 0) ∧ (y > 0 ↔ y' > 0)) :
    (x * y < 0 ↔ x' * y' < 0) ∧ (0 < x * y ↔ 0 < x' * y') := by
  simp only [gt_iff_lt] at hx hy
  rw [(mul_sign x y).1, (mul_sign x y).2, (mul_sign x' y').1, (mul_sign x' y').2,
    hx.2.1, hx.2.2, hy.2.1, hy.2.2]
  exact ⟨Iff.rfl, Iff.rfl⟩

theorem mul_bound {x y : Int} (hx : -(2:Int)^30 ≤ x ∧ x ≤ (2:Int)^30) (hy : -(2:Int)^30 ≤ y ∧ y ≤ (2:Int)^30) :
    -(2:Int)^60 ≤ x * y ∧ x * y ≤ (2:Int)^60 := by
  have h := Nat.mul_le_mul (show x.natAbs ≤ 2^30 by omega) (show y.natAbs ≤ 2^30 by omega)
  rw [← Int.natAbs_mul] at h
  omega

theorem int_eq_iff_natAbs_sign (z w : Int) : z = w ↔ z.natAbs = w.natAbs ∧ z.sign = w.sign := by
  constructor
  · rintro rfl; exact ⟨rfl, rfl⟩
  · rintro ⟨h1, h2⟩
    rw [← Int.sign_mul_natAbs z, ← Int.sign_mul_natAbs w, h1, h2]

theorem round53Nat_id {n : Nat} (h : n ≤ 2^53) : F.round53Nat n = n := by
  rcases Nat.lt_or_eq_of_le h with h | h
  · unfold F.round53Nat F.bitlen
    by_cases h0 : n = 0
    · simp [h0]
    · have : n.log2 < 53 := (Nat.log2_lt h0).mpr h
      simp only [h0, if_false]
      rw [if_pos (by omega)]
  · subst h
    decide

theorem round53Nat_pos {n : Nat} (h : 0 < n) : 0 < F.round53Nat n := by
  unfold F.round53Nat
  dsimp only
  split
  · exact h
  next hb =>
    -- the leading bit survives the shift
    have hq : 0 < n >>> (F.bitlen n - 53) := by
      rw [Nat.shiftRight_eq_div_pow]
      apply Nat.div_pos _ (Nat.two_pow_pos _)
      calc 2 ^ (F.bitlen n - 53) ≤ 2 ^ n.log2 :=
            Nat.pow_le_pow_right (by decide) (by unfold F.bitlen; split <;> omega)
        _ ≤ n := Nat.log2_self_le (Nat.ne_of_gt h)
    rw [Nat.shiftLeft_eq]
    apply Nat.mul_pos _ (Nat.two_pow_pos _)
    split
    · omega
    · split
      · exact hq
      · split <;> omega

theorem round53Nat_eq_one (n : Nat) : F.round53Nat n = 1 ↔ n = 1 := by
  unfold F.round53Nat
  simp only
  split
  · exact Iff.rfl
  next h =>
    refine ⟨fun h1 => ?_, fun h1 => absurd (h1 ▸ (by decide : F.bitlen 1 ≤ 53)) h⟩
    -- a value shifted left by at least one bit is even
    have he : F.bitlen n - 53 = (F.bitlen n - 53 - 1) + 1 := by omega
    rw [he, Nat.shiftLeft_eq, Nat.pow_succ, ← Nat.mul_assoc] at h1
    omega

theorem round53_sign (z : Int) :
    (F.round53 z = 0 ↔ z = 0) ∧ (F.round53 z < 0 ↔ z < 0) ∧ (0 < F.round53 z ↔ 0 < z) := by
  unfold F.round53
  by_cases hz : z = 0
  · subst hz; decide
  · have := round53Nat_pos (n := z.natAbs) (by omega)
    split <;> omega

theorem round53_id {z : Int} (h : z.natAbs ≤ 2^53) : F.round53 z = z := by
  unfold F.round53
  rw [round53Nat_id h]
  split <;> omega

theorem abs_ofInt (z : Int) : F.abs (F.ofInt z) = (F.round53Nat z.natAbs : Int) := by
  unfold F.abs F.ofInt F.round53 SgnF
  by_cases hz : z < 0
  · rw [if_pos hz]; split <;> omega
  · rw [if_neg hz]; split <;> omega

/-- `math.Abs(float64(wc)) == 1` iff `wc = ±1`, for wind counts of any magnitude -/
theorem abs_round53_eq_one (z : Int) : F.abs (F.ofInt z) = 1 ↔ (z = 1 ∨ z = -1) := by
  have := round53Nat_eq_one z.natAbs
  rw [abs_ofInt]
  generalize F.round53Nat z.natAbs = m at *
  show (m : Int) = 1 ↔ _
  omega

theorem absU64_toNat {a : Int64} (ha : a.toInt.natAbs ≤ 2 ^ 53) :
    (F.toU64 (F.abs (F.ofInt64 a))).toNat = a.toInt.natAbs := by
  show (UInt64.ofNat (F.abs (F.ofInt a.toInt)).toNat).toNat = _
  rw [abs_ofInt, round53Nat_id ha, Int.toNat_natCast, UInt64.toNat_ofNat']
  omega

end Proofs.Arith
