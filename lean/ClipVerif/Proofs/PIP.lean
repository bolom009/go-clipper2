import ClipVerif.Proofs.PIPOp
import ClipVerif.Model.PIP
/-
The hand model of `PointInPolygon` (`Model.pointInPolygon`: an index loop over the array that wraps
around its end) computes what `Model.pointInOpPolygon` computes on the same vertices (`pip_eq_op`);
its correctness is that of the latter.
-/
namespace Proofs.PIP
open Gen Model

/-- The crossing test as `pipIter` has it inline.  It repeats `Model.opStepVal` word for word (`opStepVal_eq` below, by
    `rfl`): the second name only says whose loop is meant, and `proc` could as well call `opStepVal`. -/
def stepVal (pt prev curr : Point64) (above : Bool) (val : Nat) : Option Nat :=
  if pt.X < curr.X ∧ pt.X < prev.X then some val
  else if pt.X > prev.X ∧ pt.X > curr.X then some (1 - val)
  else
    let d := CrossProduct prev curr pt
    if d = 0 then none
    else if (decide (d < 0)) == above then some (1 - val) else some val

end Proofs.PIP

namespace Proofs.PIPOp
theorem opStepVal_eq : @Model.opStepVal = @Proofs.PIP.stepVal := rfl
end Proofs.PIPOp

namespace Proofs.PIP
open Gen Model Proofs.PIPOp

/-- the inner skip loop stops at a vertex `j` not strictly on side `a` (or at `e`), and the walk passes over
    the vertices before it unchanged -/
theorem skip_spec (L : List Point64) (pt : Point64) (a : Bool) (e : Nat) (he : e ≤ L.length) (i : Nat) (hi : i ≤ e) :
    ∃ j, pipSkip L.toArray pt.Y a e i = j ∧ i ≤ j ∧ j ≤ e ∧
      (j < e → ¬ (if a then L[j]!.Y < pt.Y else L[j]!.Y > pt.Y)) ∧
      ∀ v T, opWalk pt L[i-1]! a v (L.drop i ++ T) = opWalk pt L[j-1]! a v (L.drop j ++ T) := by
  fun_induction pipSkip L.toArray pt.Y a e i with
  | case1 i h hc ih =>
    obtain ⟨j, hj, h1, h2, h3, h4⟩ := ih (by omega)
    refine ⟨j, hj, by omega, h2, h3, fun v T => ?_⟩
    have hc' : (if a = true then L[i]!.Y < pt.Y else L[i]!.Y > pt.Y) := by
      cases a <;> simpa using hc
    rw [List.drop_eq_getElem!_cons L i (by omega), List.cons_append, opWalk, if_pos hc', ← h4]
    rfl
  | case2 i h hc =>
    refine ⟨i, rfl, by omega, hi, fun _ => ?_, fun _ _ => rfl⟩
    cases a <;> simpa using hc
  | case3 i h => exact ⟨i, rfl, by omega, hi, by omega, fun _ _ => rfl⟩

theorem skip_stay (L : List Point64) (pt : Point64) (a : Bool) (e i : Nat)
    (h : ¬ (if a = true then L[i]!.Y < pt.Y else L[i]!.Y > pt.Y)) : pipSkip L.toArray pt.Y a e i = i := by
  unfold pipSkip
  split
  · rw [List.getElem!_toArray, if_neg h]
  · rfl

/-- what `pipIter` does with the vertex `j` at which the skip loop stopped before `end` (`pipIter_ne`) -/
def proc (pt : Point64) (L : List Point64) (start e : Nat) (a : Bool) (v : Nat) (j : Nat) : PipStep :=
  let curr := L[j]!
  let prev := if j > 0 then L[j-1]! else L[L.length-1]!
  if curr.Y = pt.Y then
    if curr.X = pt.X ∨ (curr.Y = prev.Y ∧ ((pt.X < prev.X) != (pt.X < curr.X))) then .done 0
    else if j + 1 = start then .brk { i := j + 1, «end» := e, isAbove := a, val := v }
    else .cont { i := j + 1, «end» := e, isAbove := a, val := v }
  else
    match stepVal pt prev curr a v with
    | none => .done 0
    | some v' => .cont { i := j + 1, «end» := e, isAbove := !a, val := v' }

theorem pipIter_ne (pt : Point64) (L : List Point64) (start i e : Nat) (a : Bool) (v : Nat) (h : i ≠ e) :
    pipIter pt L.toArray start { i := i, «end» := e, isAbove := a, val := v } =
      if pipSkip L.toArray pt.Y a e i = e then
        .cont { i := pipSkip L.toArray pt.Y a e i, «end» := e, isAbove := a, val := v }
      else proc pt L start e a v (pipSkip L.toArray pt.Y a e i) := by
  simp only [pipIter, h, false_and, if_false, List.getElem!_toArray, List.size_toArray]
  rfl

/-- the state in which the loop stops after a walk that did not return `IsOn` -/
def out (L : List Point64) (start : Nat) : Option (Bool × Nat) → Sum Nat PipSt
  | none => .inl 0
  | some (a, v) =>
    .inr { i := if start = 0 then L.length else start, «end» := if start = 0 then L.length else start,
           isAbove := a, val := v }

/-- the second phase: indices `i … start-1`, all on the line -/
theorem loop2 (L : List Point64) (pt : Point64) (start : Nat) (hs : start ≤ L.length)
    (hon : ∀ j, j < start → L[j]!.Y = pt.Y)
    (f i : Nat) (a : Bool) (v : Nat) (h1 : i < start) (h2 : start - i ≤ f) :
    pipLoop pt L.toArray start f { i := i, «end» := start, isAbove := a, val := v } =
      out L start (opWalk pt (if i > 0 then L[i-1]! else L[L.length-1]!) a v ((L.take start).drop i)) := by
  induction f generalizing i a v with
  | zero => omega
  | succ f ih =>
    have hY := hon i h1
    rw [List.drop_take_eq_getElem!_cons L i start h1 hs, opWalk]
    have hns : ¬ (if a = true then L[i]!.Y < pt.Y else L[i]!.Y > pt.Y) := by
      rw [hY]; cases a <;> simp [Int64.lt_irrefl]
    rw [if_neg hns, if_pos hY]
    rw [pipLoop, pipIter_ne pt L start i start a v (by omega), skip_stay L pt a start i hns,
      if_neg (by omega), proc]
    simp only [hY, if_true]
    generalize (if i > 0 then L[i-1]! else L[L.length-1]!) = prev
    split_ifs with hC hlast
    · rfl
    · simp only [hlast, List.drop_take_self, opWalk, out, if_neg (show ¬ start = 0 by omega)]
    · simp only []
      rw [ih (i+1) a v (by omega) (by omega)]
      simp

theorem pipIter_end (pt : Point64) (L : List Point64) (start e : Nat) (a : Bool) (v : Nat) :
    pipIter pt L.toArray start { i := e, «end» := e, isAbove := a, val := v } =
      if e = 0 ∨ start = 0 then .brk { i := e, «end» := e, isAbove := a, val := v }
      else pipIter pt L.toArray start { i := 0, «end» := start, isAbove := a, val := v } := by
  by_cases h : e = 0 ∨ start = 0
  · rw [if_pos h]
    exact if_pos ⟨rfl, h⟩
  · have hs : ¬ 0 = start := by omega
    rw [if_neg h]
    unfold pipIter
    simp only [h, hs, and_false, false_and, if_false, if_true]

/-- the first phase: indices `i … len-1`, then the second -/
theorem loop1 (L : List Point64) (pt : Point64) (start : Nat) (hs : start < L.length)
    (hon : ∀ j, j < start → L[j]!.Y = pt.Y)
    (f i : Nat) (a : Bool) (v : Nat) (h1 : start < i) (h2 : i ≤ L.length) (h3 : (L.length - i) + start + 2 ≤ f) :
    pipLoop pt L.toArray start f { i := i, «end» := L.length, isAbove := a, val := v } =
      out L start (opWalk pt L[i-1]! a v (L.drop i ++ L.take start)) := by
  induction f generalizing i a v with
  | zero => omega
  | succ f ih =>
    by_cases hin : i = L.length
    · subst hin
      rw [List.drop_length, List.nil_append]
      by_cases h0 : start = 0
      · subst h0
        rw [pipLoop, pipIter_end, if_pos (Or.inr rfl)]
        rfl
      · have := loop2 L pt start (by omega) hon (f+1) 0 a v (by omega) (by omega)
        simp only [Nat.lt_irrefl, if_false, List.drop_zero] at this
        rw [← this, pipLoop, pipLoop, pipIter_end, if_neg (by omega)]
    · obtain ⟨j, hj, k1, k2, k3, k4⟩ := skip_spec L pt a L.length (Nat.le_refl _) i h2
      rw [pipLoop, pipIter_ne pt L start i L.length a v hin, k4, hj]
      by_cases hjl : j = L.length
      · rw [if_pos hjl]
        simp only []
        rw [ih j a v (by omega) (by omega) (by omega)]
      · rw [if_neg hjl]
        have hj0 : j > 0 := by omega
        rw [List.drop_eq_getElem!_cons L j (by omega), List.cons_append, opWalk, opStepVal_eq, if_neg (k3 (by omega)), proc]
        simp only [hj0, if_true]
        generalize L[j-1]! = prev
        split_ifs with hY hC hst
        · rfl
        · omega
        · simp only []
          rw [ih (j+1) a v (by omega) (by omega) (by omega), Nat.add_sub_cancel]
        · cases hsv : stepVal pt prev L[j]! a v with
          | none => rfl
          | some v' =>
            simp only []
            rw [ih (j+1) (!a) v' (by omega) (by omega) (by omega), Nat.add_sub_cancel]

theorem pipSkipEq_eq (L : List Point64) (y : Int64) (i : Nat) :
    pointInPolygon.pipSkipEq L.toArray y i = i + (L.drop i).findIdx (fun q => q.Y != y) := by
  fun_induction pointInPolygon.pipSkipEq L.toArray y i with
  | case1 i h hc ih =>
    rw [List.getElem!_toArray] at hc
    rw [ih, List.drop_eq_getElem!_cons L i (by simpa using h), List.findIdx_cons, hc, bne_self_eq_false,
      cond_false]
    omega
  | case2 i h hc =>
    rw [List.getElem!_toArray] at hc
    rw [List.drop_eq_getElem!_cons L i (by simpa using h), List.findIdx_cons, bne_iff_ne.2 hc, cond_true,
      Nat.add_zero]
  | case3 i h => rw [List.drop_of_length_le (by simpa using h)]; rfl

theorem lastD_rot (L : List Point64) (s : Nat) (h : s < L.length) :
    (L.drop (s+1) ++ L.take s).getLastD L[s]! = if s = 0 then L[L.length-1]! else L[s-1]! := by
  cases s with
  | zero =>
    have := List.getLastD_cons (b := L[0]!) (a := default) (l := L.drop 1)
    rw [List.take_zero, List.append_nil, if_pos rfl, ← this, ← List.drop_eq_getElem!_cons L 0 h, List.drop_zero,
      List.getLastD_eq_getLast?, List.getLast?_eq_getElem?, List.getElem!_eq_getElem?_getD]
  | succ k =>
    rw [List.take_add_one, List.getElem?_eq_getElem (by omega), Option.toList_some, ← List.append_assoc,
      List.getLastD_concat, if_neg (by omega), Nat.add_sub_cancel, getElem!_pos L k (by omega)]

theorem pointInPolygon_eq (pt : Point64) (L : List Point64) (h3 : 3 ≤ L.length) (start : Nat)
    (hf : L.findIdx? (fun q => q.Y != pt.Y) = some start) :
    pointInPolygon pt L.toArray = ringTest pt L[start]! (L.drop (start+1) ++ L.take start) := by
  obtain ⟨hlt, _, hon⟩ := List.findIdx?_eq_some_iff_getElem.1 hf
  have hon : ∀ j, j < start → L[j]!.Y = pt.Y := fun j hj => by
    simpa [show j < L.length by omega] using hon j hj
  unfold pointInPolygon ringTest
  simp only [List.size_toArray, List.getElem!_toArray, pipSkipEq_eq, List.drop_zero, Nat.zero_add,
    (List.findIdx?_eq_some_iff_findIdx_eq.1 hf).2]
  rw [if_neg (by omega), if_neg (by omega)]
  rw [loop1 L pt start hlt hon _ (start+1) _ 0 (by omega) (by omega) (by omega), Nat.add_sub_cancel,
    lastD_rot L start hlt]
  cases opWalk pt L[start]! (decide (L[start]!.Y < pt.Y)) 0 (L.drop (start + 1) ++ L.take start) with
  | none => rfl
  | some av =>
    obtain ⟨a', v'⟩ := av
    by_cases h0 : start = 0
    · subst h0
      simp [out, closing]
    · have : ¬ start = L.length := by omega
      simp [out, closing, h0, this]

theorem pip_eq_op (pt : Point64) (poly : Array Point64) :
    pointInPolygon pt poly = pointInOpPolygon pt poly.toList := by
  obtain ⟨L⟩ := poly
  by_cases h3 : L.length < 3
  · rw [pointInOpPolygon_degenerate pt L (Or.inl h3), pointInPolygon, List.size_toArray]
    exact if_pos h3
  cases hf : L.findIdx? (fun q => q.Y != pt.Y) with
  | none =>
    rw [pointInOpPolygon, if_neg h3, hf, pointInPolygon]
    simp only [List.size_toArray, pipSkipEq_eq, List.drop_zero, Nat.zero_add]
    rw [if_neg h3, if_pos (List.findIdx?_eq_none_iff_findIdx_eq.1 hf)]
  | some start =>
    rw [pointInPolygon_eq pt L (by omega) start hf, pointInOpPolygon_eq pt L (by omega) start hf]

theorem pip_correct (pt : Point64) (poly : Array Point64)
    (hp : pt.inRange) (hr : ∀ q ∈ poly.toList, q.inRange) (h3 : 3 ≤ poly.size)
    (hflat : ∃ q ∈ poly.toList, q.Y ≠ pt.Y) :
    Model.pointInPolygon pt poly =
      (if Spec.onPath (pathToI poly.toList) ⟨(pt.X.toInt : Rat), (pt.Y.toInt : Rat)⟩ then 0
       else if Spec.wind (pathToI poly.toList) ⟨(pt.X.toInt : Rat), (pt.Y.toInt : Rat)⟩ % 2 ≠ 0 then 1 else 2) := by
  rw [pip_eq_op]
  exact pointInOpPolygon_correct pt poly.toList hp hr (by simpa using h3) hflat

end Proofs.PIP
