import ClipVerif.Model.AelPtr
import ClipVerif.Model.IntersectList
import ClipVerif.Proofs.Basic
/-
The pointer surgery on the active-edge list (`Model.AelPtr`) implements the list operations the list-level models
use: `WF h l` says that the heap represents `l`, and each operation takes `WF` of the old list to `WF` of the new.
The proofs go through segments `Seg`, which may end in any `nextInAEL` and so split at any point (`seg_append`).
Every operation is a case of `wf_splice`, the replacement of a window of the list, once what it does to `prev`,
`next` and `head` is in closed form (`swapPositions_prev` and the like).
-/
namespace Proofs.AelPtr
open Model.AelPtr

/-- the edges of `l` are linked in this order, `p` being the `prevInAEL` of the first and nil the `nextInAEL` of
the last -/
def Linked (h : Heap) : List Nat → Option Nat → Prop
  | [], _ => True
  | [x], p => h.prev x = p ∧ h.next x = none
  | x :: y :: t, p => h.prev x = p ∧ h.next x = some y ∧ Linked h (y :: t) (some x)

/-- the heap represents the active-edge list `l` (edges outside `l` may hold anything: `deleteFromAEL`
leaves the deleted edge's pointers stale) -/
def WF (h : Heap) (l : List Nat) : Prop := l.Nodup ∧ h.head = l.head? ∧ Linked h l none

theorem upd_same (f : Nat → Option Nat) (i : Nat) (v : Option Nat) : upd f i v i = v := if_pos rfl
theorem upd_ne (f : Nat → Option Nat) (i j : Nat) (v : Option Nat) (hne : j ≠ i) : upd f i v j = f j :=
  if_neg hne

theorem upd_apply (f : Nat → Option Nat) (i : Nat) (v : Option Nat) (j : Nat) :
    upd f i v j = if some i = some j then v else f j := by
  by_cases hj : j = i
  · rw [hj, upd_same, if_pos rfl]
  · rw [upd_ne f i j v hj, if_neg fun hc => hj (Option.some.inj hc).symm]

/-- the guarded assignment `if o != nil { o.field = v }`, read at `x`.  The `match` of a model function is another
auxiliary function than the one here, equal to it by unfolding only, so `rw` does not find it there: a closed form
is proved by rewriting its `if` back into this `match`, which leaves the model function unfolded (`rfl`). -/
theorem upd_opt (f : Nat → Option Nat) (o v : Option Nat) (x : Nat) :
    (match o with | some n => upd f n v | none => f) x = if o = some x then v else f x := by
  cases o with
  | none => exact (if_neg nofun).symm
  | some n => exact upd_apply f n v x

def lastOr : List Nat → Option Nat → Option Nat
  | [], p => p
  | x :: t, _ => lastOr t (some x)

def headOr : List Nat → Option Nat → Option Nat
  | [], q => q
  | x :: _, _ => some x

@[simp] theorem headOr_nil (q : Option Nat) : headOr [] q = q := rfl
@[simp] theorem headOr_cons (x : Nat) (t : List Nat) (q : Option Nat) : headOr (x :: t) q = some x := rfl
@[simp] theorem lastOr_nil (p : Option Nat) : lastOr [] p = p := rfl
@[simp] theorem lastOr_cons (x : Nat) (t : List Nat) (p : Option Nat) : lastOr (x :: t) p = lastOr t (some x) := rfl

/-- segment: like `Linked`, but the last edge's `nextInAEL` is `q` -/
def Seg (h : Heap) : List Nat → Option Nat → Option Nat → Prop
  | [], _, _ => True
  | x :: t, p, q => h.prev x = p ∧ h.next x = headOr t q ∧ Seg h t (some x) q

theorem linked_iff_seg (h : Heap) (l : List Nat) (p : Option Nat) : Linked h l p ↔ Seg h l p none := by
  induction l generalizing p with
  | nil => simp [Linked, Seg]
  | cons x t ih =>
    cases t with
    | nil => simp [Linked, Seg]
    | cons y t => simp only [Linked, ih, Seg, headOr]

theorem lastOr_append (l1 l2 : List Nat) (p : Option Nat) : lastOr (l1 ++ l2) p = lastOr l2 (lastOr l1 p) := by
  induction l1 generalizing p with
  | nil => rfl
  | cons x t ih => simp [ih]

theorem headOr_append (l1 l2 : List Nat) (q : Option Nat) : headOr (l1 ++ l2) q = headOr l1 (headOr l2 q) := by
  cases l1 <;> rfl

theorem seg_append (h : Heap) (l1 l2 : List Nat) (p q : Option Nat) :
    Seg h (l1 ++ l2) p q ↔ Seg h l1 p (headOr l2 q) ∧ Seg h l2 (lastOr l1 p) q := by
  induction l1 generalizing p with
  | nil => simp [Seg]
  | cons x t ih =>
    simp only [List.cons_append, Seg, ih, headOr_append, lastOr, and_assoc]

theorem seg_congr (h h' : Heap) (l : List Nat) (p q : Option Nat)
    (hc : ∀ x ∈ l, h'.prev x = h.prev x ∧ h'.next x = h.next x) : Seg h l p q ↔ Seg h' l p q := by
  induction l generalizing p with
  | nil => simp [Seg]
  | cons x t ih =>
    have hx := hc x (by simp)
    have ht := ih (some x) (fun y hy => hc y (by simp [hy]))
    simp only [Seg, hx.1, hx.2, ht]

theorem seg_snoc (h : Heap) (l : List Nat) (a : Nat) (p q : Option Nat) :
    Seg h (l ++ [a]) p q ↔ Seg h l p (some a) ∧ h.prev a = lastOr l p ∧ h.next a = q := by
  simp [seg_append, Seg]

theorem head?_eq_headOr (l : List Nat) : l.head? = headOr l none := by cases l <;> rfl

theorem walk_seg (h : Heap) (l : List Nat) (p : Option Nat) (fuel : Nat) (hs : Seg h l p none)
    (hf : l.length ≤ fuel) : walk fuel h.next (headOr l none) = l := by
  induction l generalizing p fuel with
  | nil => cases fuel <;> simp [walk]
  | cons x t ih =>
    cases fuel with
    | zero => simp at hf
    | succ f =>
      show walk (f + 1) h.next (some x) = _
      rw [walk, hs.2.1, ih (some x) f hs.2.2 (by simpa using hf)]

theorem lastOr_eq (l : List Nat) (p : Option Nat) : lastOr l p = l.getLast?.or p := by
  induction l generalizing p with
  | nil => rfl
  | cons x t ih => rw [lastOr_cons, ih, List.getLast?_cons]; cases t.getLast? <;> rfl

theorem lastOr_some_ne_none (l : List Nat) (a : Nat) : lastOr l (some a) ≠ none := by simp [lastOr_eq]

theorem mem_of_lastOr {l : List Nat} {x : Nat} (h : lastOr l none = some x) : x ∈ l :=
  List.mem_of_getLast? (by simpa [lastOr_eq] using h)

theorem mem_of_headOr {l : List Nat} {x : Nat} (h : headOr l none = some x) : x ∈ l :=
  List.mem_of_head? ((head?_eq_headOr l).trans h)

/-- re-target the `next` of the last edge of a segment -/
theorem seg_requeue {h h' : Heap} {l : List Nat} {p q q' : Option Nat} (hs : Seg h l p q) (hnd : l.Nodup)
    (hp : ∀ x ∈ l, h'.prev x = h.prev x)
    (hn : ∀ x ∈ l, h'.next x = if lastOr l p = some x then q' else h.next x) : Seg h' l p q' := by
  rcases List.eq_nil_or_snoc l with rfl | ⟨l0, z, rfl⟩
  · trivial
  · have hz : ∀ x ∈ l0, some z ≠ some x := fun x hx hc =>
      (List.nodup_append.1 hnd).2.2 x hx z (List.mem_singleton_self z) (Option.some.inj hc).symm
    rw [seg_snoc] at hs ⊢
    simp only [lastOr_append, lastOr_cons, lastOr_nil] at hn
    refine ⟨(seg_congr h h' l0 p _ fun x hx => ⟨hp x (by simp [hx]), ?_⟩).1 hs.1, ?_, ?_⟩
    · rw [hn x (by simp [hx]), if_neg (hz x hx)]
    · rw [hp z (by simp), hs.2.1]
    · rw [hn z (by simp), if_pos rfl]

/-- re-target the `prev` of the first edge of a segment -/
theorem seg_rehead {h h' : Heap} {l : List Nat} {p p' q : Option Nat} (hs : Seg h l p q) (hnd : l.Nodup)
    (hn : ∀ x ∈ l, h'.next x = h.next x)
    (hp : ∀ x ∈ l, h'.prev x = if headOr l q = some x then p' else h.prev x) : Seg h' l p' q := by
  cases l with
  | nil => trivial
  | cons x t =>
    obtain ⟨_, h2, h3⟩ := hs
    refine ⟨by simpa using hp x (by simp), by rw [hn x (by simp), h2],
      (seg_congr h h' t (some x) q fun y hy => ⟨?_, hn y (by simp [hy])⟩).1 h3⟩
    have hxy : some x ≠ some y := fun hc => (List.nodup_cons.1 hnd).1 (Option.some.inj hc ▸ hy)
    rw [hp y (by simp [hy]), headOr_cons, if_neg hxy]

/-- `prev := ae1.prevInAEL` is read after `next.prevInAEL = ae1`, which leaves it alone as `ae1` is not after `ae2` -/
theorem swapPositions_pv {h : Heap} {e1 e2 : Nat} (hnx : h.next e2 ≠ some e1) :
    (match h.next e2 with | some n => upd h.prev n (some e1) | none => h.prev) e1 = h.prev e1 :=
  (upd_opt ..).trans (if_neg hnx)

theorem swapPositions_prev {h : Heap} {e1 e2 : Nat} (hnx : h.next e2 ≠ some e1) (x : Nat) :
    (swapPositions h e1 e2).prev x =
      if x = e1 then some e2 else if x = e2 then h.prev e1 else if h.next e2 = some x then some e1 else h.prev x := by
  show (let prev := match h.next e2 with | some n => upd h.prev n (some e1) | none => h.prev
        upd (upd prev e2 (prev e1)) e1 (some e2) x) = _
  -- both rewrites act on the right-hand side: its last `if` becomes `prev x` and its `h.prev e1` becomes `prev e1`
  rw [← upd_opt h.prev (h.next e2) (some e1) x, ← swapPositions_pv hnx]
  rfl

theorem swapPositions_next {h : Heap} {e1 e2 : Nat} (hnx : h.next e2 ≠ some e1) (x : Nat) :
    (swapPositions h e1 e2).next x =
      if x = e1 then h.next e2 else if x = e2 then some e1 else if h.prev e1 = some x then some e2 else h.next x := by
  show (let pv := (match h.next e2 with | some n => upd h.prev n (some e1) | none => h.prev) e1
        let next := match pv with | some p => upd h.next p (some e2) | none => h.next
        upd (upd next e2 (some e1)) e1 (h.next e2) x) = _
  rw [← upd_opt h.next (h.prev e1) (some e2) x, ← swapPositions_pv hnx]
  rfl

theorem swapPositions_head {h : Heap} {e1 e2 : Nat} (hne : e1 ≠ e2) (hnx : h.next e2 ≠ some e1) :
    (swapPositions h e1 e2).head = if h.prev e1 = none then some e2 else h.head := by
  show (if (swapPositions h e1 e2).prev e2 = none then some e2 else h.head) = _
  rw [swapPositions_prev hnx, if_neg hne.symm, if_pos rfl]

theorem deleteFromAEL_next (h : Heap) (e x : Nat) :
    (deleteFromAEL h e).next x = if h.prev e = some x then h.next e else h.next x := by
  unfold deleteFromAEL
  cases hp : h.prev e <;> cases hn : h.next e <;> simp [upd_apply]
  split <;> rfl

theorem deleteFromAEL_prev (h : Heap) (e x : Nat) :
    (deleteFromAEL h e).prev x = if h.next e = some x then h.prev e else h.prev x := by
  unfold deleteFromAEL
  cases hp : h.prev e <;> cases hn : h.next e <;> simp [upd_apply]
  split <;> rfl

theorem deleteFromAEL_head {h : Heap} {e : Nat} (hh : h.prev e = none → h.head = some e) :
    (deleteFromAEL h e).head = if h.prev e = none then h.next e else h.head := by
  unfold deleteFromAEL
  cases hp : h.prev e <;> cases hn : h.next e <;> simp [hp] at hh ⊢
  rw [if_pos hh]

theorem insertRightEdge_next (h : Heap) (e e2 x : Nat) :
    (insertRightEdge h e e2).next x = if x = e then some e2 else if x = e2 then h.next e else h.next x := rfl

theorem insertRightEdge_prev (h : Heap) (e e2 x : Nat) :
    (insertRightEdge h e e2).prev x =
      if x = e2 then some e else if h.next e = some x then some e2 else h.prev x := by
  show upd (match h.next e with | some n => upd h.prev n (some e2) | none => h.prev) e2 (some e) x = _
  rw [← upd_opt h.prev (h.next e) (some e2) x]
  rfl

theorem wf_iff (h : Heap) (l : List Nat) : WF h l ↔ l.Nodup ∧ h.head = headOr l none ∧ Seg h l none none := by
  simp only [WF, linked_iff_seg, head?_eq_headOr]

theorem wf_at {h : Heap} {pre post : List Nat} {e : Nat} (hw : WF h (pre ++ e :: post)) :
    h.prev e = lastOr pre none ∧ h.next e = headOr post none := by
  have := ((wf_iff ..).1 hw).2.2
  simp only [seg_append, Seg] at this
  exact ⟨this.2.1, this.2.2.1⟩

/-- Replacing a window `mid` of the list by `mid'`.  The heap `h'` represents the new list when the new window
is linked up between its neighbours, outside it `prevInAEL` has changed only in the edge after it and
`nextInAEL` only in the edge before it, and `actives` follows when the window is at the front. -/
theorem wf_splice {h h' : Heap} {pre mid mid' post : List Nat}
    (hw : WF h (pre ++ (mid ++ post))) (hnd : (pre ++ (mid' ++ post)).Nodup)
    (hhead : h'.head = if lastOr pre none = none then headOr mid' (headOr post none) else h.head)
    (hmid : Seg h' mid' (lastOr pre none) (headOr post none))
    (hout : ∀ x, x ∉ mid' →
      h'.prev x = (if headOr post none = some x then lastOr mid' (lastOr pre none) else h.prev x) ∧
      h'.next x = (if lastOr pre none = some x then headOr mid' (headOr post none) else h.next x)) :
    WF h' (pre ++ (mid' ++ post)) := by
  rw [wf_iff] at hw ⊢
  obtain ⟨_, hh, hl⟩ := hw
  simp only [seg_append, headOr_append] at hl hh ⊢
  obtain ⟨hpre, _, hpost⟩ := hl
  obtain ⟨hndpre, hnd', hd⟩ := List.nodup_append.1 hnd
  obtain ⟨_, hndpost, hd'⟩ := List.nodup_append.1 hnd'
  have hpm : ∀ x ∈ pre, x ∉ mid' := fun x hx hm => hd x hx x (List.mem_append_left _ hm) rfl
  have hqm : ∀ x ∈ post, x ∉ mid' := fun x hx hm => hd' x hm x hx rfl
  refine ⟨hnd, ?_, seg_requeue hpre hndpre (fun x hx => ?_) (fun x hx => (hout x (hpm x hx)).2),
    hmid, seg_rehead hpost hndpost (fun x hx => ?_) (fun x hx => (hout x (hqm x hx)).1)⟩
  · rw [hhead]
    cases pre with
    | nil => rfl
    | cons a t => simpa [lastOr_some_ne_none] using hh
  · rw [(hout x (hpm x hx)).1, if_neg fun hc => hd x hx x (List.mem_append_right _ (mem_of_headOr hc)) rfl]
  · rw [(hout x (hqm x hx)).2, if_neg fun hc => hd x (mem_of_lastOr hc) x (List.mem_append_right _ hx) rfl]

theorem insertFront_refines (h : Heap) (l : List Nat) (e : Nat) (hw : WF h l) (hne : l ≠ []) (hn : e ∉ l) :
    WF (insertFront h e) (e :: l) := by
  obtain ⟨a, t, rfl⟩ := List.exists_cons_of_ne_nil hne
  have hh : h.head = some a := hw.2.1
  have hea : e ≠ a := fun hc => hn (hc ▸ List.mem_cons_self)
  refine wf_splice (pre := []) (mid := []) (mid' := [e]) hw (List.nodup_cons.2 ⟨hn, hw.1⟩) ?_ ?_ ?_
  · simp [insertFront, hh]
  · simp [Seg, insertFront, hh, upd, hea]
  · intro x hx
    simp only [List.mem_singleton] at hx
    simp [insertFront, hh, upd, hx, eq_comm]

theorem insertRight_refines (h : Heap) (pre post : List Nat) (e e2 : Nat) (hw : WF h (pre ++ e :: post))
    (hn : e2 ∉ pre ++ e :: post) : WF (insertRightEdge h e e2) (pre ++ e :: e2 :: post) := by
  have hnx := (wf_at hw).2
  have h2e : e2 ≠ e := fun hc => hn (by simp [hc])
  rw [List.append_cons] at hw hn ⊢
  refine wf_splice (mid := []) (mid' := [e2]) hw
    (List.perm_middle.nodup_iff.2 (List.nodup_cons.2 ⟨hn, hw.1⟩)) ?_ ?_ ?_
  · simp [lastOr_append, insertRightEdge]
  · simp [Seg, insertRightEdge_prev, insertRightEdge_next, lastOr_append, h2e, hnx]
  · intro x hx
    simp only [List.mem_singleton] at hx
    simp [insertRightEdge_prev, insertRightEdge_next, hx, hnx, lastOr_append, eq_comm]

theorem delete_refines (h : Heap) (pre post : List Nat) (e : Nat) (hw : WF h (pre ++ e :: post)) :
    WF (deleteFromAEL h e) (pre ++ post) := by
  obtain ⟨hp, hn⟩ := wf_at hw
  have hhe : h.prev e = none → h.head = some e := by
    intro hc
    cases pre with
    | nil => exact hw.2.1
    | cons a t => exact absurd (hp ▸ hc) (lastOr_some_ne_none t a)
  refine wf_splice (mid := [e]) (mid' := []) hw (hw.1.sublist (by simp)) ?_ trivial fun x _ => ?_
  · rw [deleteFromAEL_head hhe, hp, hn]; rfl
  · rw [deleteFromAEL_prev, deleteFromAEL_next, hp, hn]; exact ⟨rfl, rfl⟩

theorem swap_refines (h : Heap) (pre post : List Nat) (e1 e2 : Nat) (hw : WF h (pre ++ e1 :: e2 :: post)) :
    WF (swapPositions h e1 e2) (pre ++ e2 :: e1 :: post) := by
  have hp1 := (wf_at hw).1
  have hn2 := (wf_at (pre := pre ++ [e1]) (by simpa using hw)).2
  obtain ⟨h12, h1post⟩ : e1 ≠ e2 ∧ e1 ∉ post := by
    have := (List.nodup_append.1 hw.1).2.1
    simp only [List.nodup_cons, List.mem_cons, not_or] at this
    exact ⟨this.1.1, this.1.2⟩
  have hnx : h.next e2 ≠ some e1 := fun hc => h1post (mem_of_headOr (hn2 ▸ hc))
  refine wf_splice (mid := [e1, e2]) (mid' := [e2, e1]) hw
    ((List.Perm.nodup_iff ((List.Perm.swap ..).append_left pre)).2 hw.1) ?_ ?_ ?_
  · rw [swapPositions_head h12 hnx, hp1]; rfl
  · simp [Seg, swapPositions_prev hnx, swapPositions_next hnx, h12.symm, hp1, hn2]
  · intro x hx
    simp only [List.mem_cons, List.not_mem_nil, or_false, not_or] at hx
    simp [swapPositions_prev hnx, swapPositions_next hnx, hx, hp1, hn2]

theorem swapAdj_split {l l' : List Nat} {a b : Nat} (hs : Model.Ix.swapAdj l a b = some l') :
    ∃ pre post, l = pre ++ a :: b :: post ∧ l' = pre ++ b :: a :: post := by
  fun_induction Model.Ix.swapAdj l a b generalizing l' with
  | case1 x y t a b hc =>
    obtain ⟨rfl, rfl⟩ : x = a ∧ y = b := by simpa using hc
    exact ⟨[], t, rfl, (Option.some.inj hs).symm⟩
  | case2 x y t a b hc ih =>
    obtain ⟨l'', hl'', rfl⟩ := Option.map_eq_some_iff.1 hs
    obtain ⟨pre, post, h1, h2⟩ := ih hl''
    exact ⟨x :: pre, post, congrArg (x :: ·) h1, congrArg (x :: ·) h2⟩
  | case3 => simp at hs

theorem swapAdj_refines (h : Heap) (l l' : List Nat) (a b : Nat) (hw : WF h l)
    (hs : Model.Ix.swapAdj l a b = some l') : WF (swapPositions h a b) l' := by
  obtain ⟨pre, post, rfl, rfl⟩ := swapAdj_split hs
  exact swap_refines h pre post a b hw

end Proofs.AelPtr

namespace Proofs.AelPtrProcess
open Model.AelPtr Model.Ix Proofs.AelPtr

/-- the pointer code of the loop: `swapPositionsInAEL(edge1, edge2)` for every node in processing order -/
def swapAll (h : Heap) (done : List Node) : Heap := done.foldl (fun hp n => swapPositions hp n.1 n.2) h

theorem process_refines (h : Heap) (l l' : List Nat) (ns done : List Node) (hw : WF h l)
    (hp : process ns l = some (done, l')) : WF (swapAll h done) l' := by
  fun_induction process ns l generalizing h done with
  | case1 ael =>
    obtain ⟨rfl, rfl⟩ : [] = done ∧ ael = l' := by simpa using hp
    exact hw
  | case2 n rest ael hf => simp at hp
  | case3 n rest ael j hf m hs => simp at hp
  | case4 n rest ael j hf m rest' ael' hs ih =>
    obtain ⟨d, hr, rfl⟩ : ∃ d, process rest' ael' = some (d, l') ∧ m :: d = done := by simpa using hp
    exact ih (swapPositions h m.1 m.2) d (swapAdj_refines h ael ael' _ _ hw hs) hr

end Proofs.AelPtrProcess
