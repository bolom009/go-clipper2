import ClipVerif.Model.Wind
import ClipVerif.Proofs.Arith
/- The contribution test for closed edges against the specification: both are brought to one form
   over Booleans, "the filling of the edge's own type changes across it, and the other type lets
   that show" (`contributing_eq`, `separates_eq`, `otherLets`). The arithmetic of the stored count
   goes through `encSides_cases`, which gives `encSides` to `omega` as linear facts. -/
namespace Proofs.C01
open Gen Spec Model

theorem encSides_cases (a : Int) {d : Int} (hd : d = 1 ∨ d = -1) :
    (0 ≤ a ∧ 0 ≤ a + d ∧ encSides a d = max a (a + d)) ∨
    (a ≤ 0 ∧ a + d ≤ 0 ∧ encSides a d = min a (a + d)) := by
  unfold encSides encWind
  split <;> omega

theorem encWind_eq (lo : Int) : encWind lo = encSides lo 1 := by
  unfold encSides
  congr 1
  omega

theorem encSides_zero {d : Int} (hd : d = 1 ∨ d = -1) : encSides 0 d = d := by
  rcases hd with rfl | rfl <;> decide

theorem encSides_flip (a d : Int) : encSides (a + d) (-d) = encSides a d := by
  unfold encSides
  congr 1
  omega

/-- the left-hand side is the count update of `intersectEdges` for an edge whose left neighbour of
    direction `e` arrives from its right: the winding on its left changes by `e` -/
theorem encSides_shift (a : Int) {d e : Int} (hd : d = 1 ∨ d = -1) (he : e = 1 ∨ e = -1) :
    (if encSides a d + e = 0 then -encSides a d else encSides a d + e) = encSides (a + e) d := by
  have h1 := encSides_cases a hd
  have h2 := encSides_cases (a + e) hd
  split <;> omega

/-- … and for an edge whose left neighbour of direction `e` leaves to its right -/
theorem encSides_unshift (a : Int) {d e : Int} (hd : d = 1 ∨ d = -1) (he : e = 1 ∨ e = -1) :
    (if encSides (a + e) d - e = 0 then -encSides (a + e) d else encSides (a + e) d - e) =
      encSides a d := by
  have h := encSides_shift (a + e) (e := -e) hd (by omega)
  rw [Int.add_neg_cancel_right] at h
  exact h

/-- the engine's reading of a stored count as "filled" (`> 0`, `< 0` or `≠ 0` by fill rule) -/
def engFilled (fr : Nat) (w : Int) : Bool := decide (0 < normCount fr w)

theorem engFilled_eq (fr : Nat) (w : Int) :
    engFilled fr w =
      if fr = C_Positive then decide (w > 0) else if fr = C_Negative then decide (w < 0)
      else decide (w ≠ 0) := by
  unfold engFilled normCount
  split
  · rfl
  · split <;> simp

/-- whether, the other type being filled or not (`v`), a change of filling of type `p` is a
    change of the result -/
def otherLets (ct p : Nat) (v : Bool) : Bool :=
  if ct = 1 then v else if ct = 2 then !v else if ct = 3 then (if p = 0 then !v else v)
  else if ct = 4 then true else false

theorem contributing_eq (ct fr : Nat) (a : Active) (hfr : fr ≤ 3) :
    clipperBase_isContributingClosed (mkEng ct fr) a =
      ((fr == 0 || decide (normCount fr a.windCount = 1)) &&
        otherLets ct (getPolyType a) (engFilled fr a.windCount2)) := by
  have hab := Arith.abs_round53_eq_one a.windCount
  have hna : (a.windCount.natAbs : Int) = 1 ↔ (a.windCount = 1 ∨ a.windCount = -1) := by omega
  have hfr' : fr = 0 ∨ fr = 1 ∨ fr = 2 ∨ fr = 3 := by omega
  -- per fill rule both sides are the same case distinction on the clip type
  rcases hfr' with rfl | rfl | rfl | rfl <;>
    simp [clipperBase_isContributingClosed, mkEng, otherLets, engFilled, normCount, getPolyType,
      C_Positive, C_Negative, C_NonZero, C_Intersection, C_Union, C_Difference, C_Xor, C_Subject,
      Id.run, pure, *] <;>
    grind

theorem normCount_encSides (fr : Nat) (a d : Int) (hfr : fr = 1 ∨ fr = 2 ∨ fr = 3) (hd : d = 1 ∨ d = -1) :
    decide (normCount fr (encSides a d) = 0) = false ∧
    decide (normCount fr (encSides a d) = 1) = (engFilled fr a != engFilled fr (a + d)) := by
  have h := encSides_cases a hd
  generalize encSides a d = c at h
  rw [decide_eq_false_iff_not, Bool.eq_iff_iff]
  rcases hfr with rfl | rfl | rfl <;> simp [engFilled, normCount, C_Positive, C_Negative] <;> omega

theorem separates_eq {ct pt : Nat} (fr : Nat) (lo w2 : Int) (hct : ct = 1 ∨ ct = 2 ∨ ct = 3 ∨ ct = 4)
    (hpt : pt = 0 ∨ pt = 1) :
    separates ct fr pt lo w2 =
      ((filled fr lo != filled fr (lo + 1)) && otherLets ct pt (filled fr w2)) := by
  unfold separates resultIn specIn
  generalize filled fr lo = a
  generalize filled fr (lo + 1) = b
  generalize filled fr w2 = v
  revert a b v
  rcases hct with rfl | rfl | rfl | rfl <;> rcases hpt with rfl | rfl <;> decide

theorem engFilled_eq_filled (fr : Nat) (w : Int) (hfr : fr = 1 ∨ fr = 2 ∨ fr = 3) :
    engFilled fr w = filled fr w := by
  rcases hfr with rfl | rfl | rfl <;> simp [filled, engFilled, normCount, C_Positive, C_Negative]
  by_cases h : w = 0 <;> simp [h]

theorem engFilled_EO_mod (V : Int) : engFilled 0 (V % 2) = filled 0 V := by
  have h : V % 2 = 0 ∨ V % 2 = 1 := by omega
  rcases h with h | h <;> simp [engFilled, filled, normCount, C_Positive, C_Negative, h]

theorem filled_EO_step (W d : Int) (hd : d = 1 ∨ d = -1) : filled 0 (W + d) = !filled 0 W := by
  have h : (W + d) % 2 = 0 ∧ W % 2 = 1 ∨ (W + d) % 2 = 1 ∧ W % 2 = 0 := by omega
  unfold filled
  rcases h with ⟨h1, h2⟩ | ⟨h1, h2⟩ <;> rw [h1, h2] <;> rfl

theorem contributing_closed_correct (ct fr pt : Nat) (lo w2 : Int)
    (hct : ct = 1 ∨ ct = 2 ∨ ct = 3 ∨ ct = 4) (hfr : fr = 1 ∨ fr = 2 ∨ fr = 3) (hpt : pt = 0 ∨ pt = 1) :
    clipperBase_isContributingClosed (mkEng ct fr) (mkEdge pt (encWind lo) w2) = separates ct fr pt lo w2 := by
  rw [contributing_eq ct fr _ (by omega), separates_eq fr lo w2 hct hpt,
    ← engFilled_eq_filled fr lo hfr, ← engFilled_eq_filled fr (lo + 1) hfr, ← engFilled_eq_filled fr w2 hfr,
    ← (normCount_encSides fr lo 1 hfr (Or.inl rfl)).2, ← encWind_eq,
    beq_eq_false_iff_ne.2 (by omega : fr ≠ 0), Bool.false_or]
  rfl

theorem contributing_closed_correct_evenodd (ct pt : Nat) (lo w2 : Int) (wc : Int)
    (hct : ct = 1 ∨ ct = 2 ∨ ct = 3 ∨ ct = 4) (hpt : pt = 0 ∨ pt = 1) (hwc : wc = 1 ∨ wc = -1) :
    clipperBase_isContributingClosed (mkEng ct 0) (mkEdge pt wc (w2 % 2)) = separates ct 0 pt lo w2 := by
  -- with EvenOdd the engine never looks at the edge's own count, so `hwc` is not needed
  rw [contributing_eq ct 0 _ (Nat.zero_le 3), separates_eq 0 lo w2 hct hpt,
    filled_EO_step lo 1 (Or.inl rfl), Bool.bne_not_self, ← engFilled_EO_mod]
  rfl

theorem contributing_closed_other (ct fr pt : Nat) (wc w2 : Int) (hct : ct = 0 ∨ 4 < ct) :
    clipperBase_isContributingClosed (mkEng ct fr) (mkEdge pt wc w2) = false := by
  obtain ⟨h1, h2, h3, h4⟩ : ct ≠ 1 ∧ ct ≠ 2 ∧ ct ≠ 3 ∧ ct ≠ 4 := by omega
  simp [clipperBase_isContributingClosed, mkEng, mkEdge,
      C_Positive, C_Negative, C_NonZero, C_Intersection, C_Union, C_Difference, C_Xor, Id.run, pure, h1, h2, h3, h4]

end Proofs.C01
