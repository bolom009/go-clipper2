import ClipVerif.Model.AelOrder
import ClipVerif.Model.Conv
import ClipVerif.Proofs.C14
import ClipVerif.Proofs.Basic
import Mathlib.Tactic.Ring
import Mathlib.Tactic.Linarith
import Mathlib.Tactic.FieldSimp
import Mathlib.Algebra.Order.Field.Rat
/-
Proofs about `Model.AelOrder` (order of the active-edge list).  `insertLeftEdge` is put in closed form first
(`insertLeftEdge_eq`: the newcomer goes behind the longest prefix of residents it may follow); where it lands,
that it lands, and that x-order is kept are read off that form.  `geometric` is about `isValidAelOrder` for
two edges that leave one point: the sign of the cross product it tests is, over ℚ, the order of the two edges' x
at every height both reach (`rat_key`).
-/
namespace Proofs.AelOrder
open Gen Model

theorem by_curX (r n : AelEdge) (h : n.curX ≠ r.curX) :
    isValidAelOrder r n = decide (n.curX.toInt > r.curX.toInt) := by
  unfold isValidAelOrder
  have h1 : (n.curX != r.curX) = true := by simpa using h
  rw [if_pos h1]
  simp only [gt_iff_lt, Int64.lt_iff_toInt_lt]

theorem aelWalk_eq (ae : AelEdge) (l pre : List AelEdge) :
    aelWalk ae pre l =
      ((l.takeWhile (isValidAelOrder · ae)).reverse ++ pre, l.dropWhile (isValidAelOrder · ae)) := by
  induction l generalizing pre with
  | nil => rfl
  | cons x rest ih =>
    rw [aelWalk, ih, List.takeWhile_cons, List.dropWhile_cons]
    cases isValidAelOrder x ae
    · rfl
    · rw [if_pos rfl, if_pos rfl, if_pos rfl, List.reverse_cons, List.append_assoc, List.singleton_append]

/-- where the newcomer goes, given the longest prefix `l1` of residents it may follow and the rest `l2`:
after `l1`, or one place further right if `l1` ends in a JoinRight edge -/
def place (ae : AelEdge) (l1 l2 : List AelEdge) : Option (List AelEdge) :=
  if l1.getLast?.any (·.joinRight) then
    match l2 with
    | [] => none
    | x :: l2' => some (l1 ++ x :: ae :: l2')
  else some (l1 ++ ae :: l2)

theorem insertLeftEdge_eq (ael : List AelEdge) (ae : AelEdge) :
    insertLeftEdge ael ae =
      place ae (ael.takeWhile (isValidAelOrder · ae)) (ael.dropWhile (isValidAelOrder · ae)) := by
  cases ael with
  | nil => rfl
  | cons hd t =>
    rw [insertLeftEdge, aelWalk_eq, List.takeWhile_cons, List.dropWhile_cons]
    cases isValidAelOrder hd ae
    · rfl
    · -- the walk's `pre` is the valid prefix reversed: its head is the prefix's last element
      rw [if_pos rfl, if_pos rfl, ← List.reverse_cons]
      rcases List.eq_nil_or_snoc (hd :: t.takeWhile (isValidAelOrder · ae)) with h0 | ⟨m, z, hm⟩
      · cases h0
      rw [hm]
      unfold place
      rw [List.getLast?_concat, List.reverse_append]
      simp only [List.reverse_cons, List.reverse_nil, List.nil_append, List.singleton_append, Bool.not_true,
        Bool.false_eq_true, if_false, List.reverse_reverse, Option.any_some]
      split <;> rfl

theorem position (ael : List AelEdge) (ae : AelEdge) (res : List AelEdge)
    (h : insertLeftEdge ael ae = some res) :
    ∃ l1 l2, ael = l1 ++ l2 ∧ res = l1 ++ ae :: l2 ∧
      ((∀ e ∈ l1, isValidAelOrder e ae = true) ∧ (∀ x, l2.head? = some x → isValidAelOrder x ae = false)
       ∨ (∃ l0 j x, l1 = l0 ++ [j, x] ∧ j.joinRight = true ∧ (∀ e ∈ l0 ++ [j], isValidAelOrder e ae = true) ∧
            isValidAelOrder x ae = false)) := by
  rw [insertLeftEdge_eq] at h
  have hsplit := List.takeWhile_append_dropWhile (p := (isValidAelOrder · ae)) (l := ael)
  have hall : ∀ e ∈ ael.takeWhile (isValidAelOrder · ae), isValidAelOrder e ae = true :=
    fun e he => List.all_eq_true.1 List.all_takeWhile e he
  have hhead := List.head?_dropWhile_not (isValidAelOrder · ae) ael
  generalize ael.takeWhile (isValidAelOrder · ae) = l1 at h hsplit hall
  generalize ael.dropWhile (isValidAelOrder · ae) = l2 at h hsplit hhead
  have hh : ∀ x, l2.head? = some x → isValidAelOrder x ae = false := by
    intro x hx; rw [hx] at hhead; exact hhead
  unfold place at h
  split at h
  · next hjr =>
    obtain ⟨j, hl, hj⟩ := (Option.any_eq_true _ _).1 hjr
    obtain ⟨l0, rfl⟩ := List.getLast?_eq_some_iff.1 hl
    cases l2 with
    | nil => cases h
    | cons x l2' =>
      exact ⟨l0 ++ [j, x], l2', by rw [← hsplit]; simp, by rw [← Option.some.inj h]; simp,
        Or.inr ⟨l0, j, x, rfl, hj, hall, hh x rfl⟩⟩
  · exact ⟨l1, l2, hsplit.symm, (Option.some.inj h).symm, Or.inl ⟨hall, hh⟩⟩

theorem total (ael : List AelEdge) (ae : AelEdge)
    (hj : ∀ l1 j, ael = l1 ++ [j] → j.joinRight = false) :
    ∃ res, insertLeftEdge ael ae = some res := by
  rw [insertLeftEdge_eq]
  unfold place
  split
  · next hjr =>
    split
    · next hd =>
      -- the walk reached the end of the list, so `j` is the last resident
      obtain ⟨j, hl, hjr⟩ := (Option.any_eq_true _ _).1 hjr
      obtain ⟨l0, hl0⟩ := List.getLast?_eq_some_iff.1 hl
      have := List.takeWhile_append_dropWhile (p := (isValidAelOrder · ae)) (l := ael)
      rw [hd, List.append_nil, hl0] at this
      cases hjr.symm.trans (hj l0 j this.symm)
    · exact ⟨_, rfl⟩
  · exact ⟨_, rfl⟩

theorem valid_le (e ae : AelEdge) :
    (isValidAelOrder e ae = true → e.curX.toInt ≤ ae.curX.toInt) ∧
    (isValidAelOrder e ae = false → ae.curX.toInt ≤ e.curX.toInt) := by
  by_cases hc : ae.curX = e.curX
  · rw [hc]
    exact ⟨fun _ => Int.le_refl _, fun _ => Int.le_refl _⟩
  · rw [by_curX e ae hc]
    constructor
    · intro h; have := of_decide_eq_true h; omega
    · intro h; have := of_decide_eq_false h; omega

theorem sorted (ael : List AelEdge) (ae : AelEdge) (res : List AelEdge)
    (hs : ael.Pairwise (fun a b => a.curX.toInt ≤ b.curX.toInt))
    (hj : ∀ e ∈ ael, e.joinRight = false)
    (h : insertLeftEdge ael ae = some res) :
    res.Pairwise (fun a b => a.curX.toInt ≤ b.curX.toInt) := by
  obtain ⟨l1, l2, h1, h2, h3⟩ := position ael ae res h
  rcases h3 with ⟨ha, hb⟩ | ⟨l0, j, x, e1, e2, _, _⟩
  · subst h1 h2
    rw [List.pairwise_append] at hs ⊢
    obtain ⟨s1, s2, s3⟩ := hs
    have hl2 : ∀ b ∈ l2, ae.curX.toInt ≤ b.curX.toInt := by
      cases l2 with
      | nil => simp
      | cons x l2' =>
        have hx := (valid_le x ae).2 (hb x rfl)
        refine List.forall_mem_cons.2 ⟨hx, fun b hb' => ?_⟩
        have := (List.pairwise_cons.1 s2).1 b hb'
        omega
    refine ⟨s1, List.pairwise_cons.2 ⟨hl2, s2⟩, ?_⟩
    intro a ha'
    have hale := (valid_le a ae).1 (ha a ha')
    refine List.forall_mem_cons.2 ⟨hale, fun b hb' => ?_⟩
    have := hl2 b hb'
    omega
  · -- `j` is a resident, so it is not a JoinRight edge
    cases e2.symm.trans (hj j (by rw [h1, e1]; simp))

theorem valid_iff_cross (r n : AelEdge)
    (hb : r.bot = n.bot) (hx : r.curX = n.curX)
    (hrb : r.bot.inRange) (hrt : r.top.inRange) (hnt : n.top.inRange)
    (hd : crossZ r.top n.bot n.top ≠ 0) :
    isValidAelOrder r n = true ↔ crossZ r.top n.bot n.top < 0 := by
  obtain ⟨c0, c1, _⟩ := Proofs.C14.crossProduct_sign r.top n.bot n.top hrt (hb ▸ hrb) hnt
  have hne : CrossProduct r.top n.bot n.top ≠ 0 := fun h => hd (c0.1 h)
  unfold isValidAelOrder
  have h1 : ¬ ((n.curX != r.curX) = true) := by simp [hx]
  rw [if_neg h1]
  simp only
  rw [if_pos hne]
  simp only [decide_eq_true_eq]
  exact c1

theorem rat_key (b1 b2 rx ry nx ny y : Rat) (hA : ry < b2) (hB : ny < b2) (ht : y < b2) :
    (b1 + (rx - b1) * (y - b2) / (ry - b2) < b1 + (nx - b1) * (y - b2) / (ny - b2)) ↔
      (b1 - rx) * (ny - b2) - (b2 - ry) * (nx - b1) < 0 := by
  have hA' : ry - b2 < 0 := sub_neg.2 hA
  have hB' : ny - b2 < 0 := sub_neg.2 hB
  -- the difference of the two sides, times the (positive) product of the denominators
  have e : ((b1 + (nx - b1) * (y - b2) / (ny - b2)) - (b1 + (rx - b1) * (y - b2) / (ry - b2))) *
        ((ry - b2) * (ny - b2)) =
      (y - b2) * ((b1 - rx) * (ny - b2) - (b2 - ry) * (nx - b1)) := by
    field_simp [ne_of_lt hA', ne_of_lt hB']
    ring
  rw [← sub_pos, ← mul_pos_iff_of_pos_right (mul_pos_of_neg_of_neg hA' hB'), e, ← neg_mul_neg,
    mul_pos_iff_of_pos_left (neg_pos.2 (sub_neg.2 ht)), neg_pos]

theorem geometric (r n : AelEdge)
    (hb : r.bot = n.bot) (hx : r.curX = n.curX)
    (hrb : r.bot.inRange) (hrt : r.top.inRange) (hnt : n.top.inRange)
    (hr : r.top.Y.toInt < r.bot.Y.toInt) (hn : n.top.Y.toInt < n.bot.Y.toInt)
    (hd : crossZ r.top n.bot n.top ≠ 0) :
    isValidAelOrder r n = true ↔
      ∀ y : Rat, (r.top.Y.toInt : Rat) ≤ y → (n.top.Y.toInt : Rat) ≤ y → y < (n.bot.Y.toInt : Rat) →
        (r.bot.X.toInt : Rat) + ((r.top.X.toInt : Rat) - r.bot.X.toInt) * (y - r.bot.Y.toInt) / ((r.top.Y.toInt : Rat) - r.bot.Y.toInt)
        < (n.bot.X.toInt : Rat) + ((n.top.X.toInt : Rat) - n.bot.X.toInt) * (y - n.bot.Y.toInt) / ((n.top.Y.toInt : Rat) - n.bot.Y.toInt) := by
  rw [valid_iff_cross r n hb hx hrb hrt hnt hd]
  rw [hb] at hr ⊢
  have hr' : (r.top.Y.toInt : Rat) < (n.bot.Y.toInt : Rat) := by exact_mod_cast hr
  have hn' : (n.top.Y.toInt : Rat) < (n.bot.Y.toInt : Rat) := by exact_mod_cast hn
  -- over ℚ the cross product is the right side of `rat_key`
  rw [← Int.cast_lt (R := Rat)]
  unfold crossZ
  push_cast
  constructor
  · intro h y _ _ hy
    exact (rat_key _ _ _ _ _ _ y hr' hn' hy).2 h
  · intro h
    rcases le_total (r.top.Y.toInt : Rat) (n.top.Y.toInt : Rat) with hle | hle
    · exact (rat_key _ _ _ _ _ _ _ hr' hn' hn').1 (h _ hle (le_refl _) hn')
    · exact (rat_key _ _ _ _ _ _ _ hr' hn' hr').1 (h _ (le_refl _) hle hr')

end Proofs.AelOrder
