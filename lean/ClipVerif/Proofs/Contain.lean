import ClipVerif.Model.Contain
import ClipVerif.Proofs.PIP
import ClipVerif.Proofs.PIPOp
/-
The containment tests of the PolyTree owner search (`Model.Contain`).  The vote looks at the decisive verdicts only
(`vote_filter`), so two of them for one side and none for the other decide it (`vote_decided`): what one expects of
two rings that do not cross.  `pointInOpPolygon` answers with the parity of the exact winding number
(`Proofs.PIPOp`), and `PointInPolygon` is the same function (`pip_eq_op`), so under that hypothesis on the
vertices of the first ring both tests answer with the vote (`contains_sound`).  Of `getCleanPath` only that it
returns a sublist of the ring, nonempty if the ring is.
-/
namespace Proofs.Contain
open Gen Model

theorem vote_filter (cs : List Nat) (pip : Nat) : vote pip (cs.filter fun c => c == 1 || c == 2) = vote pip cs := by
  induction cs generalizing pip with
  | nil => rfl
  | cons c cs ih =>
    by_cases h2 : c = 2
    · simp [h2, vote, ih]
    · by_cases h1 : c = 1
      · simp [h1, vote, ih]
      · simp [h1, h2, vote, ih]

/-- `b = true` stands for IsInside.  The decisive verdicts are copies of one value, so what `vote_filter` leaves
    is a `replicate`. -/
theorem vote_decided (b : Bool) (cs : List Nat) (pip : Nat) (hno : ∀ c ∈ cs, c ≠ bif b then 2 else 1)
    (h2 : 2 ≤ cs.count (bif b then 1 else 2)) : vote pip cs = .inl b := by
  have hf : ∀ c ∈ cs, (c == 1 || c == 2) = (c == bif b then 1 else 2) := by
    intro c hc
    have := hno c hc
    cases b <;> simp at this <;> simp [this]
  obtain ⟨n, hn⟩ := Nat.exists_eq_add_of_le h2
  rw [← vote_filter, List.filter_congr hf, List.filter_beq, hn, Nat.add_comm]
  cases b <;> simp [vote, List.replicate_succ]

theorem vote_inside (cs : List Nat) (hno : ∀ c ∈ cs, c ≠ 2) (h2 : 2 ≤ cs.count 1) :
    vote 0 cs = .inl true :=
  vote_decided true cs 0 hno h2

theorem vote_outside (cs : List Nat) (hno : ∀ c ∈ cs, c ≠ 1) (h2 : 2 ≤ cs.count 2) :
    vote 0 cs = .inl false :=
  vote_decided false cs 0 hno h2

theorem vote_skip (cs : List Nat) (pip : Nat) (h : ∀ c ∈ cs, c ≠ 1 ∧ c ≠ 2) : vote pip cs = .inr pip := by
  rw [← vote_filter, List.filter_eq_nil_iff.2 (by simpa [not_or] using h)]
  rfl

def qOf (p : Point64) : QPt := ⟨(p.X.toInt : Rat), (p.Y.toInt : Rat)⟩

def spec (ring : List Point64) (p : Point64) : Nat :=
  if Spec.onPath (pathToI ring) (qOf p) then 0
  else if Spec.wind (pathToI ring) (qOf p) % 2 ≠ 0 then 1 else 2

/-- `qOf`, `sIn`, `sOut` are `C04.qOf`, `C04.StrictIn`, `C04.StrictOut`: Props/C04.lean imports this file and has to
    repeat them; its statements unfold to these. -/
def sIn (ring : List Point64) (p : Point64) : Bool :=
  !Spec.onPath (pathToI ring) (qOf p) && decide (Spec.wind (pathToI ring) (qOf p) % 2 ≠ 0)
def sOut (ring : List Point64) (p : Point64) : Bool :=
  !Spec.onPath (pathToI ring) (qOf p) && decide (Spec.wind (pathToI ring) (qOf p) % 2 = 0)

def sSide : Bool → List Point64 → Point64 → Bool
  | true => sIn
  | false => sOut

theorem sSide_eq (b : Bool) (ring : List Point64) (p : Point64) :
    sSide b ring p = (spec ring p == bif b then 1 else 2) := by
  unfold spec
  cases b <;> simp only [sSide, sIn, sOut] <;> cases Spec.onPath (pathToI ring) (qOf p) <;>
    by_cases h : Spec.wind (pathToI ring) (qOf p) % 2 = 0 <;> simp [h]

theorem op_spec (ring2 : List Point64) (hr2 : ∀ q ∈ ring2, q.inRange) (h3 : 3 ≤ ring2.length)
    (hY : ∃ a ∈ ring2, ∃ b ∈ ring2, a.Y ≠ b.Y) (p : Point64) (hp : p.inRange) :
    pointInOpPolygon p ring2 = spec ring2 p := by
  obtain ⟨a, ha, b, hb, hab⟩ := hY
  refine Proofs.PIPOp.pointInOpPolygon_correct p ring2 hp hr2 h3 ?_
  by_cases h : a.Y = p.Y
  · exact ⟨b, hb, fun hb' => hab (h.trans hb'.symm)⟩
  · exact ⟨a, ha, h⟩

theorem contains_sound (b : Bool) (ring1 ring2 : List Point64)
    (hr1 : ∀ q ∈ ring1, q.inRange) (hr2 : ∀ q ∈ ring2, q.inRange) (h3 : 3 ≤ ring2.length)
    (hY : ∃ a ∈ ring2, ∃ b ∈ ring2, a.Y ≠ b.Y)
    (hno : ∀ p ∈ ring1, sSide (!b) ring2 p = false) (h2 : 2 ≤ ring1.countP (sSide b ring2)) :
    path1InsidePath2 ring1 ring2 = b ∧ path2ContainsPath1 ring1 ring2 = b := by
  have hv : vote 0 (ring1.map fun p => pointInOpPolygon p ring2) = .inl b := by
    rw [List.map_congr_left fun p hp => op_spec ring2 hr2 h3 hY p (hr1 p hp)]
    apply vote_decided b
    · refine List.forall_mem_map.2 fun p hp => ?_
      have := hno p hp
      rw [sSide_eq] at this
      cases b <;> simpa using this
    · rw [List.count_eq_countP, List.countP_map]
      exact h2.trans_eq (List.countP_congr fun p _ => by simp [sSide_eq])
  constructor
  · rw [path1InsidePath2, hv]
  · rw [path2ContainsPath1]
    simp only [Proofs.PIP.pip_eq_op, hv]

theorem path1InsidePath2_sound_inside (ring1 ring2 : List Point64)
    (hr1 : ∀ q ∈ ring1, q.inRange) (hr2 : ∀ q ∈ ring2, q.inRange) (h3 : 3 ≤ ring2.length)
    (hY : ∃ a ∈ ring2, ∃ b ∈ ring2, a.Y ≠ b.Y)
    (hno : ∀ p ∈ ring1, sOut ring2 p = false)
    (h2 : 2 ≤ ring1.countP (sIn ring2)) :
    Model.path1InsidePath2 ring1 ring2 = true :=
  (contains_sound true ring1 ring2 hr1 hr2 h3 hY hno h2).1

theorem path2ContainsPath1_sound_inside (path1 path2 : List Point64)
    (hr1 : ∀ q ∈ path1, q.inRange) (hr2 : ∀ q ∈ path2, q.inRange) (h3 : 3 ≤ path2.length)
    (hY : ∃ a ∈ path2, ∃ b ∈ path2, a.Y ≠ b.Y)
    (hno : ∀ p ∈ path1, sOut path2 p = false)
    (h2 : 2 ≤ path1.countP (sIn path2)) :
    Model.path2ContainsPath1 path1 path2 = true :=
  (contains_sound true path1 path2 hr1 hr2 h3 hY hno h2).2

theorem path2ContainsPath1_all_on (path1 path2 : List Point64)
    (hon : ∀ p ∈ path1, Model.pointInPolygon p path2.toArray = 0) :
    Model.path2ContainsPath1 path1 path2 =
      (Model.pointInPolygon (Rect64_MidPoint (getBounds path1)) path2.toArray != 2) := by
  have hv : vote 0 (path1.map fun p => pointInPolygon p path2.toArray) = .inr 0 :=
    vote_skip _ 0 (List.forall_mem_map.2 fun p hp => by rw [hon p hp]; decide)
  rw [path2ContainsPath1, hv]
  simp only
  generalize pointInPolygon (Rect64_MidPoint (getBounds path1)) path2.toArray = v
  match v with
  | 0 | 1 | 2 | _ + 3 => rfl

theorem cleanStart_lt (r : Array Point64) (n : Nat) : ∀ (f k : Nat), k < n → cleanStart r n f k < n
  | 0, _, hk => hk
  | f + 1, k, hk => by
    unfold cleanStart
    split
    · next h =>
      refine cleanStart_lt r n f (k + 1) (Nat.lt_of_le_of_ne hk fun e => ?_)
      rw [e, Nat.mod_self] at h
      exact Bool.noConfusion h
    · exact hk

theorem cleanWalk_spec (r : Array Point64) (n : Nat) (is : List Nat) (prev : Point64) (acc : List Point64) :
    ∃ l', cleanWalk r n is prev acc = acc.reverse ++ l' ∧ l'.Sublist (is.map (fun i => r[i]!)) := by
  induction is generalizing prev acc with
  | nil => exact ⟨[], by simp [cleanWalk], List.Sublist.refl _⟩
  | cons i is ih =>
    unfold cleanWalk
    split
    · obtain ⟨l', h1, h2⟩ := ih r[i]! (r[i]! :: acc)
      refine ⟨r[i]! :: l', ?_, ?_⟩
      · rw [h1]; simp
      · simpa using h2
    · obtain ⟨l', h1, h2⟩ := ih prev acc
      exact ⟨l', h1, by simpa using h2.cons _⟩

theorem map_range'_drop (ring : List Point64) (k : Nat) :
    (List.range' k (ring.length - k)).map (fun i => ring.toArray[i]!) = ring.drop k := by
  apply List.ext_getElem (by simp)
  intro i h1 _
  rw [List.length_map, List.length_range'] at h1
  simp [show k + i < ring.length by omega]

theorem getCleanPath_spec (ring : List Point64) (h : ring ≠ []) :
    ∃ x l', getCleanPath ring = x :: l' ∧ (x :: l').Sublist ring := by
  have hn : ring.length ≠ 0 := mt List.length_eq_zero_iff.mp h
  unfold getCleanPath
  simp only [List.size_toArray, if_neg hn]
  have hk := cleanStart_lt ring.toArray ring.length ring.length 0 (by omega)
  generalize cleanStart ring.toArray ring.length ring.length 0 = k at hk
  obtain ⟨l', h1, h2⟩ := cleanWalk_spec ring.toArray ring.length
    (List.range' (k + 1) (ring.length - 1 - k)) ring.toArray[k]! [ring.toArray[k]!]
  refine ⟨_, l', h1, ?_⟩
  -- the indices `k`, `k + 1`, … read `ring.drop k`
  have hd := map_range'_drop ring k
  rw [show ring.length - k = ring.length - 1 - k + 1 by omega, List.range'_succ, List.map_cons] at hd
  exact (hd ▸ h2.cons_cons _).trans (List.drop_sublist k ring)

theorem getCleanPath_sublist (ring : List Point64) : (Model.getCleanPath ring).Sublist ring := by
  by_cases h : ring = []
  · subst h; simp [getCleanPath]
  · obtain ⟨x, l', h1, h2⟩ := getCleanPath_spec ring h
    rw [h1]; exact h2

theorem getCleanPath_ne_nil (ring : List Point64) (h : ring ≠ []) : Model.getCleanPath ring ≠ [] := by
  obtain ⟨x, l', h1, _⟩ := getCleanPath_spec ring h
  rw [h1]; exact List.cons_ne_nil _ _

end Proofs.Contain
