import ClipVerif.Proofs.Out
import ClipVerif.Proofs.C15
import ClipVerif.Model.Trim
import ClipVerif.Model.Lists
import ClipVerif.Model.OffsetGeom
import ClipVerif.Proofs.Basic
/-
C13 (second part): the list algorithms of the hand models see the points only through equality and the
tests `isCollinear`, `dotProduct64`, `ptsReallyClose`, so they commute with every injective map of the
points that preserves those tests — in particular with every translation (two's-complement
arithmetic, all 64-bit vectors).  `cleanCollinearLoop` and `buildPath` are in `Proofs.Out`.
The work is to show that every index at which an array is read is in range (`p[i]!` out of range is
`default`, and `f default` need not be `default`).
-/
namespace Proofs.C13b
open Gen Model Proofs.Dedup Proofs.C15

/-- translation by `v` is spelled out here: `C13.shift` is defined in Props/C13.lean, which imports this file -/
theorem add_inj (v a b : Point64) :
    (⟨a.X + v.X, a.Y + v.Y⟩ : Point64) = ⟨b.X + v.X, b.Y + v.Y⟩ ↔ a = b := by
  cases a; cases b
  simp only [Point64.mk.injEq, Int64.add_left_inj]

section
variable {f : Point64 → Point64} (hinj : ∀ a b, f a = f b ↔ a = b)
  (hcol : ∀ a b c, isCollinear (f a) (f b) (f c) = isCollinear a b c)

include hcol

theorem isCollinear_map (p : Array Point64) {i j k : Nat} (hi : i < p.size) (hj : j < p.size) (hk : k < p.size) :
    isCollinear (p.map f)[i]! (p.map f)[j]! (p.map f)[k]! = isCollinear p[i]! p[j]! p[k]! := by
  rw [Array.getElem!_map p f hi, Array.getElem!_map p f hj, Array.getElem!_map p f hk, hcol]

theorem trimSkipFront_map (p : Array Point64) (l i : Nat) (hl : l ≤ p.size) :
    trimSkipFront (p.map f) l i = trimSkipFront p l i := by
  fun_induction trimSkipFront p l i with
  | case1 i h hc ih =>
    rw [trimSkipFront, dif_pos h, isCollinear_map hcol p (by omega) (by omega) (by omega), if_pos hc, ih]
  | case2 i h hc =>
    rw [trimSkipFront, dif_pos h, isCollinear_map hcol p (by omega) (by omega) (by omega), if_neg hc]
  | case3 i h => rw [trimSkipFront, dif_neg h]

theorem trimSkipBack_map (p : Array Point64) (i l : Nat) (hl : l ≤ p.size) :
    trimSkipBack (p.map f) i l = trimSkipBack p i l := by
  fun_induction trimSkipBack p i l with
  | case1 l h hc ih =>
    rw [trimSkipBack, dif_pos h, isCollinear_map hcol p (by omega) (by omega) (by omega), if_pos hc, ih (by omega)]
  | case2 l h hc =>
    rw [trimSkipBack, dif_pos h, isCollinear_map hcol p (by omega) (by omega) (by omega), if_neg hc]
  | case3 l h => rw [trimSkipBack, dif_neg h]

theorem trimMain_map (p : Array Point64) (l i : Nat) (last : Point64) (res : Array Point64) (hl : l ≤ p.size) :
    trimMain (p.map f) l i (f last) (res.map f) =
      (f (trimMain p l i last res).1, (trimMain p l i last res).2.map f) := by
  fun_induction trimMain p l i last res with
  | case1 i last res h hc ih =>
    rw [trimMain, dif_pos h, Array.getElem!_map p f (by omega : i < p.size),
      Array.getElem!_map p f (by omega : i + 1 < p.size), hcol,
      if_pos hc, ih]
  | case2 i last res h hc ih =>
    rw [trimMain, dif_pos h, Array.getElem!_map p f (by omega : i < p.size),
      Array.getElem!_map p f (by omega : i + 1 < p.size), hcol,
      if_neg hc, ← Array.map_push, ih]
  | case3 i last res h => rw [trimMain, dif_neg h]

theorem trimClose_map (res : Array Point64) : trimClose (res.map f) = (trimClose res).map f := by
  fun_induction trimClose res with
  | case1 res h hc ih =>
    rw [trimClose, dif_pos (by rwa [Array.size_map]), Array.size_map,
      isCollinear_map hcol res (by omega) (by omega) (by omega), if_pos hc, ← Array.map_pop, ih]
  | case2 res h hc =>
    rw [trimClose, dif_pos (by rwa [Array.size_map]), Array.size_map,
      isCollinear_map hcol res (by omega) (by omega) (by omega), if_neg hc]
  | case3 res h => rw [trimClose, dif_neg (by rwa [Array.size_map])]

include hinj

theorem trimTail_map (path : Array Point64) (isOpen : Bool) (i l : Nat) (hl : l ≤ path.size) :
    trimTail (path.map f) isOpen i l = (trimTail path isOpen i l).map f := by
  unfold trimTail
  by_cases h3 : l - i < 3 ∨ l < i
  · -- fewer than three points: all or nothing
    rw [if_pos h3, if_pos h3, apply_ite (Array.map f), Array.map_empty]
    by_cases h2 : l < 2
    · simp only [h2, decide_true, Bool.or_true, Bool.true_or]
    · rw [Array.getElem!_map path f (by omega : 0 < path.size), Array.getElem!_map path f (by omega : 1 < path.size),
        Proofs.Out.beq_map hinj]
  · obtain ⟨last, res, s, k⟩ := kept path i l hl
    have h0 : 0 < res.size := by rw [← Array.length_toList, k.toList]; exact Nat.succ_pos _
    have hm := trimMain_map hcol path l (i + 1) path[i]! #[path[i]!] hl
    rw [k.eq, show (#[path[i]!].map f) = #[f path[i]!] by simp] at hm
    rw [if_neg h3, if_neg h3, Array.getElem!_map path f (by omega : i < path.size),
      Array.getElem!_map path f (by omega : l - 1 < path.size), hm, k.eq]
    simp only [apply_ite (Array.map f), Array.map_push, Array.map_empty]
    rw [Array.getElem!_map res f h0, hcol, trimClose_map hcol, Array.size_map]

theorem trim_map (path : Array Point64) (isOpen : Bool) :
    trimCollinear (path.map f) isOpen = (trimCollinear path isOpen).map f := by
  rw [trimCollinear_eq, trimCollinear_eq, Array.size_map, trimSkipFront_map hcol path _ _ (Nat.le_refl _),
    trimSkipBack_map hcol path _ _ (Nat.le_refl _)]
  split
  · exact trimTail_map hinj hcol path _ _ _ (Nat.le_refl _)
  · exact trimTail_map hinj hcol path _ _ _ (skipBack_bound _ _ _).1

end

theorem strip_map {f : Point64 → Point64} (hinj : ∀ a b, f a = f b ↔ a = b) (path : List Point64)
    (closed : Bool) : stripDuplicates (path.map f) closed = (stripDuplicates path closed).map f := by
  rw [stripDuplicates_eq, stripDuplicates_eq, dedup_map hinj, apply_ite (List.map f), unclose_map f hinj]

theorem buildNormals_map {f : Point64 → Point64} (hf : ∀ a b, getUnitNormal (f a) (f b) = getUnitNormal a b)
    (path : Array Point64) : buildNormals (path.map f) = buildNormals path := by
  unfold buildNormals
  rw [Array.size_map]
  split
  · rfl
  · next hne =>
    have hpos : 0 < path.size := Nat.pos_of_ne_zero (fun e => hne (by rw [e]; rfl))
    have hmap : ∀ i ∈ List.range (path.size - 1),
        getUnitNormal (path.map f)[i]! (path.map f)[i + 1]! = getUnitNormal path[i]! path[i + 1]! := by
      intro i hi
      have hi' : i < path.size - 1 := List.mem_range.1 hi
      rw [Array.getElem!_map path f (by omega : i < path.size),
        Array.getElem!_map path f (by omega : i + 1 < path.size), hf]
    rw [Array.getElem!_map path f (by omega : path.size - 1 < path.size), Array.getElem!_map path f hpos, hf,
      List.map_congr_left hmap]

end Proofs.C13b
