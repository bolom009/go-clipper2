import ClipVerif.Model.Lists
namespace Proofs.C03
open Gen Model

def Ok {α : Type} (x : Except Fault α) (Q : α → Prop) : Prop := ∃ r, x = .ok r ∧ Q r

theorem Ok.bind {α γ : Type} {x : Except Fault α} {k : α → Except Fault γ} {P : α → Prop} {Q : γ → Prop}
    (hx : Ok x P) (hk : ∀ v, P v → Ok (k v) Q) : Ok (x >>= k) Q := by
  obtain ⟨v, rfl, hv⟩ := hx
  exact hk v hv

theorem Ok.of_eq {α : Type} {x : Except Fault α} {Q : α → Prop} {r : α} (hx : Ok x Q) (h : x = .ok r) : Q r := by
  obtain ⟨r', h', hr⟩ := hx
  cases h.symm.trans h'
  exact hr

/-- `for i in [lo:hi]` with a body that never faults and never breaks: an invariant `Inv i b` of the
    index and the loop state holds at the exit index -/
theorem Ok.forIn_range {β : Type} (Inv : Nat → β → Prop) {lo hi : Nat} {init : β}
    {f : Nat → β → Except Fault (ForInStep β)} (h0 : Inv lo init)
    (hstep : ∀ i b, lo ≤ i → i < hi → Inv i b → Ok (f i b) fun r => ∃ b', r = .yield b' ∧ Inv (i + 1) b') :
    Ok (forIn [lo:hi] init f) (Inv (lo + (hi - lo))) := by
  rw [Std.Legacy.Range.forIn_eq_forIn_range']
  simp only [show ([lo:hi] : Std.Legacy.Range).size = hi - lo by simp [Std.Legacy.Range.size]]
  generalize hn : hi - lo = n
  induction n generalizing lo init with
  | zero => exact ⟨init, rfl, h0⟩
  | succ n ih =>
    obtain ⟨_, hb', b', rfl, hinv'⟩ := hstep lo init (Nat.le_refl _) (by omega) h0
    rw [List.range'_succ, List.forIn_cons, hb', show lo + (n + 1) = lo + 1 + n by omega]
    exact ih hinv' (fun i b h1 h2 => hstep i b (by omega) h2) (by omega)

/-- the bounds-checked read `tmp[a][b]` of `minkowskiInternal`, as the model writes it -/
def get (tmp : Array (Array Point64)) (a b : Int) : Except Fault Point64 :=
  if a < 0 ∨ b < 0 then .error .index
  else match tmp[a.toNat]? with
    | some row => match row[b.toNat]? with
      | some v => .ok v
      | none => .error .index
    | none => .error .index

theorem get_ok {tmp : Array (Array Point64)} {n m : Nat} (hs : tmp.size = n)
    (hrow : ∀ (i : Nat) (h : i < tmp.size), tmp[i].size = m) {a b : Int}
    (ha : 0 ≤ a ∧ a < n) (hb : 0 ≤ b ∧ b < m) : Ok (get tmp a b) fun _ => True := by
  unfold get
  rw [if_neg (by omega)]
  have h1 : a.toNat < tmp.size := by omega
  have h2 : b.toNat < tmp[a.toNat].size := by rw [hrow _ h1]; omega
  rw [Array.getElem?_eq_getElem h1]
  simp only
  rw [Array.getElem?_eq_getElem h2]
  exact ⟨_, rfl, trivial⟩

theorem minkowski_spec (pattern path : Array Point64) (isSum isClosed : Bool) :
    Ok (Model.minkowski pattern path isSum isClosed) fun r =>
      r.length = (path.size - (if isClosed then 0 else 1)) * pattern.size ∧ ∀ q ∈ r, q.length = 4 := by
  unfold Model.minkowski
  generalize htmpdef : Array.map _ path = tmp
  have hget {a b : Int} := get_ok (a := a) (b := b) (show tmp.size = path.size by simp [← htmpdef])
    (show ∀ (i : Nat) (h : i < tmp.size), tmp[i].size = pattern.size by intro i hi; simp [← htmpdef])
  clear htmpdef
  dsimp only
  rw [show (if isClosed = true then (0 : Int) else 1).toNat = if isClosed = true then 0 else 1 by
    cases isClosed <;> rfl]
  generalize hdl : (if isClosed = true then 0 else 1) = delta
  -- the carried `g`, `h` stay valid indices (as long as there is a row, a column, to read)
  refine (Ok.forIn_range
    (fun i (st : List (List Point64) × Int × Int) =>
      (0 < pattern.size → 0 ≤ st.2.2 ∧ st.2.2 < pattern.size) ∧ (i < path.size → 0 ≤ st.2.1 ∧ st.2.1 < path.size) ∧
      st.1.length = (i - delta) * pattern.size ∧ ∀ q ∈ st.1, q.length = 4) ?_ ?_).bind ?_
  · dsimp only
    refine ⟨by omega, ?_, by simp, by simp⟩
    intro hlt
    cases isClosed <;> simp at hdl ⊢ <;> omega
  · rintro i ⟨res, g, h⟩ hlo hhi ⟨hh, hg, hlen, hq⟩
    refine (Ok.forIn_range
      (fun j (st : List (List Point64) × Int) =>
        (0 < pattern.size → 0 ≤ st.2 ∧ st.2 < pattern.size) ∧
        st.1.length = (i - delta) * pattern.size + j ∧ ∀ q ∈ st.1, q.length = 4) ?_ ?_).bind ?_
    · exact ⟨hh, hlen, hq⟩
    · rintro j ⟨res', h'⟩ _ hj ⟨hh', hlen', hq'⟩
      refine (hget (hg hhi) (hh' (by omega))).bind fun q0 _ => ?_
      refine (hget (by omega) (hh' (by omega))).bind fun q1 _ => ?_
      refine (hget (by omega) (by omega)).bind fun q2 _ => ?_
      refine (hget (hg hhi) (by omega)).bind fun q3 _ => ?_
      refine ⟨_, rfl, _, rfl, fun _ => by omega, by simp only [List.length_cons, hlen']; omega, ?_⟩
      intro q hq
      rcases List.mem_cons.mp hq with rfl | hq
      · split <;> rfl
      · exact hq' q hq
    · rintro ⟨res', h'⟩ ⟨hh', hlen', hq'⟩
      refine ⟨_, rfl, _, rfl, hh', fun _ => ⟨Int.natCast_nonneg i, Int.ofNat_lt.2 hhi⟩, ?_, hq'⟩
      rw [hlen', show i + 1 - delta = (i - delta) + 1 by omega, Nat.add_mul, Nat.one_mul, Nat.zero_add, Nat.sub_zero]
  · rintro ⟨res, g, h⟩ ⟨_, _, hlen, hq⟩
    refine ⟨_, rfl, ?_, fun q hq' => hq q (List.mem_reverse.mp hq')⟩
    rw [List.length_reverse, hlen]
    congr 1
    omega

theorem minkowski_total (pattern path : Array Point64) (isSum isClosed : Bool) :
    ∃ r, Model.minkowski pattern path isSum isClosed = .ok r := by
  obtain ⟨r, h, _⟩ := minkowski_spec pattern path isSum isClosed
  exact ⟨r, h⟩

end Proofs.C03
