import ClipVerif.Proofs.C01
import ClipVerif.Proofs.C09
import ClipVerif.Proofs.Basic
/- The winding-count bookkeeping of the sweep: what the engine keeps of the edges left of an edge
   (`kept`), that insertion and intersection keep it right (`EdgeOK`), and what the decisions of
   the sweep then see of an edge (`edgeOK_features`). Prefixes are compared up to `PEq`, which is
   all a later edge sees of them: a pair that changes places, or that cancels, leaves the rest of
   the list right. -/
namespace Proofs.Wind
open Gen Spec Model Proofs.C01

theorem getPolyType_eq (a : Active) : getPolyType a = a.localMin.PolyType := rfl

theorem isOpen_eq (a : Active) : isOpen a = a.localMin.IsOpen := rfl

theorem getPolyType_le (a : Active) (ha : WF a) : getPolyType a = 0 ∨ getPolyType a = 1 := ha.2

theorem windRight_nil (pt : Nat) : windRight pt [] = 0 := rfl

theorem windRight_append (pt : Nat) (l1 l2 : List Active) :
    windRight pt (l1 ++ l2) = windRight pt l1 + windRight pt l2 := by
  simp [windRight, List.filter_append, List.map_append, List.sum_append]

theorem windRight_cons (pt : Nat) (a : Active) (l : List Active) :
    windRight pt (a :: l) = (if isClosedOf pt a then a.windDx else 0) + windRight pt l := by
  unfold windRight
  by_cases h : isClosedOf pt a = true <;> simp [h]

theorem windRight_single (pt : Nat) (a : Active) :
    windRight pt [a] = (if isClosedOf pt a then a.windDx else 0) := by
  rw [windRight_cons, windRight_nil]; omega

theorem windRight_none (pt : Nat) (l : List Active) (h : ∀ a ∈ l, isClosedOf pt a = false) :
    windRight pt l = 0 := by
  unfold windRight
  rw [List.filter_eq_nil_iff.2 fun a ha => ne_true_of_eq_false (h a ha)]
  rfl

theorem countClosed_nil (pt : Nat) : countClosed pt [] = 0 := rfl

theorem countClosed_append (pt : Nat) (l1 l2 : List Active) :
    countClosed pt (l1 ++ l2) = countClosed pt l1 + countClosed pt l2 := by
  simp [countClosed, List.filter_append]

theorem countClosed_cons (pt : Nat) (a : Active) (l : List Active) :
    countClosed pt (a :: l) = (if isClosedOf pt a then 1 else 0) + countClosed pt l := by
  unfold countClosed
  by_cases h : isClosedOf pt a = true <;> simp [h] <;> omega

theorem countClosed_single (pt : Nat) (a : Active) :
    countClosed pt [a] = (if isClosedOf pt a then 1 else 0) := by
  rw [countClosed_cons, countClosed_nil]; omega

theorem countClosed_none (pt : Nat) (l : List Active) (h : ∀ a ∈ l, isClosedOf pt a = false) :
    countClosed pt l = 0 := by
  unfold countClosed
  rw [List.filter_eq_nil_iff.2 fun a ha => ne_true_of_eq_false (h a ha)]
  rfl

theorem other_closed (pt : Nat) (hpt : pt = 0 ∨ pt = 1) {a : Active} (ha : WF a) :
    (getPolyType a != pt && !isOpen a) = isClosedOf (1 - pt) a := by
  unfold isClosedOf
  rcases hpt with rfl | rfl <;> rcases ha.2 with h | h <;> simp [h]

theorem isClosedOf_type {pt : Nat} {a : Active} (h : isClosedOf pt a = true) :
    getPolyType a = pt ∧ isOpen a = false := by
  unfold isClosedOf at h; simpa using h

theorem isClosedOf_self {e : Active} (hc : isOpen e = false) : isClosedOf (getPolyType e) e = true := by
  simp [isClosedOf, hc]

theorem isClosedOf_ne {pt : Nat} {a : Active} (h : getPolyType a ≠ pt) : isClosedOf pt a = false := by
  simp [isClosedOf, h]

theorem isClosedOf_other {e : Active} (hw : WF e) : isClosedOf (1 - getPolyType e) e = false :=
  isClosedOf_ne (by have := hw.2; omega)

theorem isClosedOf_congr (pt : Nat) {a b : Active} (h : a.localMin = b.localMin) :
    isClosedOf pt a = isClosedOf pt b := by
  unfold isClosedOf
  rw [getPolyType_eq, getPolyType_eq, isOpen_eq, isOpen_eq, h]

theorem WF_congr {a b : Active} (hd : a.windDx = b.windDx) (hl : a.localMin = b.localMin)
    (h : WF b) : WF a := by
  unfold WF at *
  rw [getPolyType_eq] at *
  rw [hd, hl]; exact h

theorem isOpen_congr {a b : Active} (hl : a.localMin = b.localMin) : isOpen a = isOpen b := by
  rw [isOpen_eq, isOpen_eq, hl]

theorem getPolyType_congr {a b : Active} (hl : a.localMin = b.localMin) :
    getPolyType a = getPolyType b := by
  rw [getPolyType_eq, getPolyType_eq, hl]

/-- holds because the generated `LocalMinima` has no fields besides `PolyType` and `IsOpen` -/
theorem closed_localMin_eq {a b : Active} (ha : isOpen a = false) (hb : isOpen b = false)
    (h : getPolyType a = getPolyType b) : a.localMin = b.localMin := by
  obtain ⟨_, _, _, ⟨_, _⟩⟩ := a
  obtain ⟨_, _, _, ⟨_, _⟩⟩ := b
  simp only [getPolyType_eq, isOpen_eq] at ha hb h
  rw [ha, hb, h]

/-- the count the sweep keeps for path type `pt` right of the prefix `l`: the winding number, under
    EvenOdd the parity of the number of edges -/
def kept (fr pt : Nat) (l : List Active) : Int :=
  if fr = 0 then ((countClosed pt l : Nat) : Int) % 2 else windRight pt l

/-- path type `pt` is filled right of the prefix `l`, as the engine reads its count -/
def inside (fr pt : Nat) (l : List Active) : Bool := engFilled fr (kept fr pt l)

theorem kept_nil (fr pt : Nat) : kept fr pt [] = 0 := by
  unfold kept; split <;> rfl

/-- the right-hand side has the shape of the step that `wc2Step` and `intersectWind` make -/
theorem kept_snoc_own {fr pt : Nat} {l : List Active} {a : Active} (h : isClosedOf pt a = true) :
    kept fr pt (l ++ [a]) =
      if fr = 0 then (if kept fr pt l = 0 then 1 else 0) else kept fr pt l + a.windDx := by
  unfold kept
  rw [windRight_append, countClosed_append, windRight_single, countClosed_single, if_pos h, if_pos h]
  split
  · omega
  · rfl

theorem kept_snoc_other {fr pt : Nat} {l : List Active} {a : Active} (h : isClosedOf pt a = false) :
    kept fr pt (l ++ [a]) = kept fr pt l := by
  unfold kept
  rw [windRight_append, countClosed_append, windRight_single, countClosed_single, h]
  simp

theorem kept_EO_01 {fr : Nat} (h : fr = 0) (pt : Nat) (l : List Active) :
    kept fr pt l = 0 ∨ kept fr pt l = 1 := by
  unfold kept
  rw [if_pos h]
  omega

theorem inside_snoc_EO {pt : Nat} {l : List Active} {a : Active} (h : isClosedOf pt a = true) :
    inside 0 pt (l ++ [a]) = !inside 0 pt l := by
  unfold inside
  rw [kept_snoc_own h, if_pos rfl]
  rcases kept_EO_01 rfl pt l with h0 | h0 <;> rw [h0] <;> rfl

theorem edgeOK_iff (fr : Nat) (pre : List Active) (e : Active) :
    EdgeOK fr pre e ↔
      (if fr = 0 then e.windCount = 1 ∨ e.windCount = -1
        else e.windCount = encSides (kept fr (getPolyType e) pre) e.windDx) ∧
      e.windCount2 = kept fr (1 - getPolyType e) pre := by
  unfold EdgeOK kept
  by_cases h : fr = 0 <;> simp [C_EvenOdd, h]

/-- two prefixes that no later edge can tell apart: `kept` looks at nothing else (`kept_congr`) -/
def PEq (l l' : List Active) : Prop :=
  ∀ pt, windRight pt l = windRight pt l' ∧ countClosed pt l % 2 = countClosed pt l' % 2

theorem PEq.refl (l : List Active) : PEq l l := fun _ => ⟨rfl, rfl⟩

theorem PEq.symm {l l' : List Active} (h : PEq l l') : PEq l' l :=
  fun pt => ⟨(h pt).1.symm, (h pt).2.symm⟩

theorem PEq.trans {l l' l'' : List Active} (h : PEq l l') (h' : PEq l' l'') : PEq l l'' :=
  fun pt => ⟨(h pt).1.trans (h' pt).1, (h pt).2.trans (h' pt).2⟩

theorem PEq.append {l l' r r' : List Active} (h : PEq l l') (h' : PEq r r') :
    PEq (l ++ r) (l' ++ r') := by
  intro pt
  have := h pt
  have := h' pt
  rw [windRight_append, windRight_append, countClosed_append, countClosed_append]
  omega

theorem PEq_single {a b : Active} (hd : a.windDx = b.windDx) (hl : a.localMin = b.localMin) :
    PEq [a] [b] := by
  intro pt
  rw [windRight_single, windRight_single, countClosed_single, countClosed_single,
    isClosedOf_congr pt hl, hd]
  exact ⟨rfl, rfl⟩

theorem PEq_pair_nil {a b : Active} (hl : a.localMin = b.localMin) (hd : a.windDx = -b.windDx) :
    PEq [a, b] [] := by
  intro pt
  rw [windRight_cons, windRight_single, countClosed_cons, countClosed_single, windRight_nil,
    countClosed_nil, isClosedOf_congr pt hl, hd]
  by_cases h : isClosedOf pt b = true <;> simp [h] <;> omega

theorem PEq_swap (a b : Active) : PEq [a, b] [b, a] := by
  intro pt
  rw [windRight_cons, windRight_single, countClosed_cons, countClosed_single,
    windRight_cons, windRight_single, countClosed_cons, countClosed_single]
  omega

theorem kept_congr (fr pt : Nat) {l l' : List Active} (h : PEq l l') : kept fr pt l = kept fr pt l' := by
  unfold kept
  have := h pt
  split <;> omega

/-- the hypothesis of `WindIx.hotB_same`: with equal directions either edge may come first, with
    opposite directions the pair cancels -/
theorem kept_same_type (fr pt : Nat) (pre : List Active) {a b : Active} (hl : a.localMin = b.localMin)
    (ha : a.windDx = 1 ∨ a.windDx = -1) (hb : b.windDx = 1 ∨ b.windDx = -1) :
    kept fr pt (pre ++ [a]) = kept fr pt (pre ++ [b]) ∨
    kept fr pt pre = kept fr pt (pre ++ [a] ++ [b]) := by
  by_cases hd : a.windDx = b.windDx
  · exact Or.inl (kept_congr fr pt ((PEq.refl pre).append (PEq_single hd hl)))
  · right
    have := kept_congr fr pt ((PEq.refl pre).append (PEq_pair_nil hl (by omega)))
    rw [List.append_nil] at this
    rw [List.append_assoc]
    exact this.symm

theorem kept_swap_last (fr pt : Nat) (l : List Active) (a b : Active) :
    kept fr pt (l ++ [a] ++ [b]) = kept fr pt (l ++ [b] ++ [a]) := by
  rw [List.append_assoc, List.append_assoc]
  exact kept_congr fr pt ((PEq.refl l).append (PEq_swap a b))

theorem edgeOK_congr {fr : Nat} {l l' : List Active} (h : PEq l l') {e : Active}
    (he : EdgeOK fr l e) : EdgeOK fr l' e := by
  rw [edgeOK_iff] at he ⊢
  rw [← kept_congr fr _ h, ← kept_congr fr _ h]
  exact he

theorem edgeOK_counts (fr : Nat) (pre : List Active) (e : Active) (c k : Int) :
    EdgeOK fr pre { e with windCount := c, windCount2 := k } ↔
      (if fr = 0 then c = 1 ∨ c = -1 else c = encSides (kept fr (getPolyType e) pre) e.windDx) ∧
      k = kept fr (1 - getPolyType e) pre :=
  edgeOK_iff fr pre _

theorem walkLeft_eq (pt : Nat) (r : List Active) :
    walkLeft pt r = (r.find? (isClosedOf pt), r.takeWhile fun a => !isClosedOf pt a) := by
  induction r with
  | nil => rfl
  | cons a r ih =>
    rw [walkLeft, List.find?_cons, List.takeWhile_cons, ih]
    cases isClosedOf pt a <;> rfl

theorem aelOK_congr {fr : Nat} {r l l' : List Active} (h : PEq l l') (hok : AelOK fr l r) :
    AelOK fr l' r := by
  induction r generalizing l l' with
  | nil => trivial
  | cons a r ih => exact ⟨fun ho => edgeOK_congr h (hok.1 ho), ih (h.append (PEq.refl [a])) hok.2⟩

theorem aelOK_append_iff (fr : Nat) (l1 l2 p : List Active) :
    AelOK fr p (l1 ++ l2) ↔ AelOK fr p l1 ∧ AelOK fr (p ++ l1) l2 := by
  induction l1 generalizing p with
  | nil => simp [AelOK]
  | cons a l1 ih =>
    simp only [List.cons_append, AelOK, ih (p ++ [a]), List.append_assoc, List.nil_append]
    exact and_assoc.symm

theorem aelOK_pair (fr : Nat) (p : List Active) (a b : Active) :
    AelOK fr p [a, b] ↔ (isOpen a = false → EdgeOK fr p a) ∧ (isOpen b = false → EdgeOK fr (p ++ [a]) b) := by
  simp [AelOK]

theorem wc2Step_kept (fr : Nat) {pt : Nat} (hpt : pt = 0 ∨ pt = 1) (pre : List Active) {a : Active}
    (ha : WF a) :
    wc2Step fr pt (kept fr (1 - pt) pre) a = kept fr (1 - pt) (pre ++ [a]) := by
  unfold wc2Step
  rw [show C_EvenOdd = 0 from rfl, other_closed pt hpt ha]
  by_cases hc : isClosedOf (1 - pt) a = true
  · rw [if_pos hc, kept_snoc_own hc]
  · rw [if_neg hc, kept_snoc_other (eq_false_of_ne_true hc)]

theorem ownCount_eq {e ae2 : Active} {W : Int} (he : e.windDx = 1 ∨ e.windDx = -1)
    (h2 : ae2.windDx = 1 ∨ ae2.windDx = -1) (hec : isOpen e = false)
    (hwc : ae2.windCount = encSides W ae2.windDx) :
    ownCount e ae2 = encSides (W + ae2.windDx) e.windDx := by
  have c1 := encSides_cases W h2
  have c2 := encSides_cases (W + ae2.windDx) he
  rw [← hwc] at c1
  unfold ownCount
  rw [hec]
  generalize ae2.windCount = c at *
  generalize ae2.windDx = d2 at *
  generalize e.windDx = d at *
  generalize encSides _ _ = r at *
  have hab : c.natAbs > 1 ↔ (c < -1 ∨ 1 < c) := by omega
  simp only [hab, Bool.false_eq_true, if_false]
  rcases he with rfl | rfl <;> rcases h2 with rfl | rfl <;>
    simp only [Int.mul_one, Int.mul_neg, Int.neg_neg, Int.reduceNeg, Int.reduceLT, if_true, if_false,
      Int.neg_lt_zero_iff] <;>
    (repeat' split) <;> omega

theorem setWindCountClosed_nil (fr : Nat) (e : Active) :
    setWindCountClosed fr [] e = { e with windCount := e.windDx } := rfl

/-- `setWindCountClosed` as a recursion on the prefix from its right end: the walk to the left stops
    at `a` or goes on over it, and then the second loop, coming back, passes `a` last -/
theorem setWindCountClosed_snoc (fr : Nat) (l : List Active) (a e : Active) :
    setWindCountClosed fr (l ++ [a]) e =
      if isClosedOf (getPolyType e) a then
        { e with windCount := if fr = 0 then e.windDx else ownCount e a, windCount2 := a.windCount2 }
      else
        { setWindCountClosed fr l e with
          windCount2 := wc2Step fr (getPolyType e) (setWindCountClosed fr l e).windCount2 a } := by
  unfold setWindCountClosed
  simp only [List.reverse_append, List.reverse_cons, List.reverse_nil, List.nil_append,
    List.singleton_append, walkLeft]
  by_cases h : isClosedOf (getPolyType e) a = true
  · simp only [h, if_true]
    rfl
  · simp only [h]
    rcases walkLeft (getPolyType e) l.reverse with ⟨_ | ae2, sk⟩ <;> simp [List.foldl_append]

theorem setWindCount_closed_frame (fr : Nat) (left : List Active) (e : Active) :
    (setWindCountClosed fr left e).windDx = e.windDx ∧
    (setWindCountClosed fr left e).localMin = e.localMin := by
  rcases h : walkLeft (getPolyType e) left.reverse with ⟨_ | ae2, sk⟩ <;>
    simp [setWindCountClosed, h]

theorem setWindCountClosed_eq {fr : Nat} {left : List Active} {e : Active}
    (hwf : ∀ a ∈ left, WF a) (he : WF e) (hec : isOpen e = false)
    (h0 : e.windCount2 = 0) (hok : AelOK fr [] left) :
    setWindCountClosed fr left e =
      { e with
        windCount := if fr = 0 then e.windDx else encSides (kept fr (getPolyType e) left) e.windDx
        windCount2 := kept fr (1 - getPolyType e) left } := by
  induction left using List.snoc_induction with
  | nil => rw [setWindCountClosed_nil, kept_nil, kept_nil, encSides_zero he.1, ite_self, ← h0]
  | snoc l a ih =>
    obtain ⟨hwl, hwa⟩ := List.forall_mem_append.1 hwf
    have hwa := List.forall_mem_singleton.1 hwa
    rw [aelOK_append_iff] at hok
    rw [setWindCountClosed_snoc]
    split
    next hcl =>
      -- the counts come from `a`, whose own are right
      obtain ⟨hty, hca⟩ := isClosedOf_type hcl
      have hE := hok.2.1 hca
      rw [List.nil_append, edgeOK_iff, hty] at hE
      rw [kept_snoc_own hcl, kept_snoc_other (hty ▸ isClosedOf_other hwa), hE.2]
      split
      · rfl
      next h0 => rw [ownCount_eq he.1 hwa.1 hec (by simpa only [if_neg h0] using hE.1)]
    next hcl =>
      -- `a` is passed over: the own count is that for `l`, the second count takes `a` in
      rw [ih hwl hok.1, kept_snoc_other (eq_false_of_ne_true hcl), ← wc2Step_kept fr he.2 l hwa]

theorem setWindCount_closed_correct (fr : Nat) (left : List Active) (e : Active)
    (hwf : ∀ a ∈ left, WF a) (he : WF e) (hec : isOpen e = false)
    (h0 : e.windCount2 = 0) (hok : AelOK fr [] left) :
    EdgeOK fr left (setWindCountClosed fr left e) := by
  rw [setWindCountClosed_eq hwf he hec h0 hok, edgeOK_counts]
  refine ⟨?_, rfl⟩
  split
  · exact he.1
  · rfl

/-- `intersectWind` with the test on the fill rule inside the fields, so that each component is one
    `{ e with … }` and `edgeOK_counts` applies to it -/
theorem intersectWind_eq (fr : Nat) (e1 e2 : Active) :
    intersectWind fr e1 e2 =
      if getPolyType e1 = getPolyType e2 then
        ({ e1 with windCount :=
            if fr = 0 then e2.windCount
            else if e1.windCount + e2.windDx = 0 then -e1.windCount else e1.windCount + e2.windDx },
         { e2 with windCount :=
            if fr = 0 then e1.windCount
            else if e2.windCount - e1.windDx = 0 then -e2.windCount else e2.windCount - e1.windDx })
      else
        ({ e1 with windCount2 :=
            if fr = 0 then (if e1.windCount2 = 0 then 1 else 0) else e1.windCount2 + e2.windDx },
         { e2 with windCount2 :=
            if fr = 0 then (if e2.windCount2 = 0 then 1 else 0) else e2.windCount2 - e1.windDx }) := by
  unfold intersectWind
  simp only [beq_iff_eq, show C_EvenOdd = 0 from rfl, ne_eq, ite_not]
  by_cases hfr : fr = 0
  · simp only [if_pos hfr]
  · simp only [if_neg hfr]

theorem intersectWind_frame (fr : Nat) (e1 e2 : Active) :
    (intersectWind fr e1 e2).1.windDx = e1.windDx ∧ (intersectWind fr e1 e2).1.localMin = e1.localMin ∧
    (intersectWind fr e1 e2).2.windDx = e2.windDx ∧ (intersectWind fr e1 e2).2.localMin = e2.localMin := by
  rw [intersectWind_eq]
  by_cases hp : getPolyType e1 = getPolyType e2
  · rw [if_pos hp]
    exact ⟨rfl, rfl, rfl, rfl⟩
  · rw [if_neg hp]
    exact ⟨rfl, rfl, rfl, rfl⟩

theorem intersectWind_correct (fr : Nat) (pre : List Active) (e1 e2 : Active)
    (h1w : WF e1) (h2w : WF e2)
    (h1c : isOpen e1 = false) (h2c : isOpen e2 = false)
    (h1 : EdgeOK fr pre e1) (h2 : EdgeOK fr (pre ++ [e1]) e2) :
    EdgeOK fr pre (intersectWind fr e1 e2).2 ∧
    EdgeOK fr (pre ++ [(intersectWind fr e1 e2).2]) (intersectWind fr e1 e2).1 := by
  -- to the edge right of it the new left edge looks like `e2`
  suffices h : EdgeOK fr pre (intersectWind fr e1 e2).2 ∧
      EdgeOK fr (pre ++ [e2]) (intersectWind fr e1 e2).1 by
    obtain ⟨_, _, hd2, hl2⟩ := intersectWind_frame fr e1 e2
    exact ⟨h.1, edgeOK_congr ((PEq.refl pre).append (PEq_single hd2.symm hl2.symm)) h.2⟩
  rw [edgeOK_iff] at h1 h2
  obtain ⟨ho1, hk1⟩ := h1
  obtain ⟨ho2, hk2⟩ := h2
  rw [intersectWind_eq]
  by_cases hp : getPolyType e1 = getPolyType e2
  · -- one type: each own count moves by the other edge's direction, the second counts stay
    have hs1 : isClosedOf (getPolyType e2) e1 = true := hp ▸ isClosedOf_self h1c
    have hn1 : isClosedOf (1 - getPolyType e2) e1 = false := hp ▸ isClosedOf_other h1w
    rw [hp] at ho1 hk1
    rw [kept_snoc_own hs1] at ho2
    rw [kept_snoc_other hn1] at hk2
    rw [if_pos hp, edgeOK_counts, edgeOK_counts, hp, kept_snoc_other (isClosedOf_other h2w),
      kept_snoc_own (isClosedOf_self h2c)]
    by_cases hfr : fr = 0
    · simp only [if_pos hfr] at ho1 ho2 ⊢
      exact ⟨⟨ho1, hk2⟩, ho2, hk1⟩
    · simp only [if_neg hfr] at ho1 ho2 ⊢
      rw [ho1, ho2, encSides_shift _ h1w.1 h2w.1, encSides_unshift _ h2w.1 h1w.1]
      exact ⟨⟨rfl, hk2⟩, rfl, hk1⟩
  · -- two types: the own counts stay, each second count takes the step of the other edge
    obtain ⟨s1, s2⟩ : 1 - getPolyType e1 = getPolyType e2 ∧ 1 - getPolyType e2 = getPolyType e1 := by
      have := h1w.2; have := h2w.2; omega
    rw [s1] at hk1
    rw [kept_snoc_other (isClosedOf_ne hp)] at ho2
    rw [s2, kept_snoc_own (isClosedOf_self h1c)] at hk2
    rw [if_neg hp, edgeOK_counts, edgeOK_counts, s1, s2, kept_snoc_other (isClosedOf_ne (Ne.symm hp)),
      kept_snoc_own (isClosedOf_self h2c), hk1]
    refine ⟨⟨ho2, ?_⟩, ho1, rfl⟩
    rw [hk2]
    split
    next h0 =>
      have := kept_EO_01 h0 (getPolyType e1) pre
      omega
    · omega

/-- the three things `intersectDecide` looks at on an edge (`z`, `o`, `v` of `WindIx.hotB`), through
    `inside` -/
theorem edgeOK_features {fr : Nat} {pre : List Active} {e : Active} (hfr : fr ≤ 3) (hw : WF e)
    (hc : isOpen e = false) (h : EdgeOK fr pre e) :
    decide (normCount fr e.windCount = 0) = false ∧
    decide (normCount fr e.windCount = 1) =
      (inside fr (getPolyType e) pre != inside fr (getPolyType e) (pre ++ [e])) ∧
    engFilled fr e.windCount2 = inside fr (1 - getPolyType e) pre := by
  rw [edgeOK_iff] at h
  obtain ⟨ho, h2⟩ := h
  have hcl := isClosedOf_self hc
  by_cases h0 : fr = 0
  · -- EvenOdd: the count is ±1 and the parity always flips
    subst h0
    rw [if_pos rfl] at ho
    rw [inside_snoc_EO hcl, Bool.bne_not_self, h2]
    rcases ho with ho | ho <;> rw [ho] <;> exact ⟨by decide, by decide, rfl⟩
  · rw [if_neg h0] at ho
    have := normCount_encSides fr (kept fr (getPolyType e) pre) e.windDx (by omega) hw.1
    rw [← ho] at this
    rw [inside, inside, kept_snoc_own hcl, if_neg h0, h2]
    exact ⟨this.1, this.2, rfl⟩

theorem contributing_mkEng (ct fr : Nat) (a : Active) :
    contributing ct fr a = clipperBase_isContributingClosed (mkEng ct fr) a := rfl

theorem contributing_of_edgeOK (ct : Nat) {fr : Nat} {pre : List Active} {e : Active} (hfr : fr ≤ 3)
    (hw : WF e) (hc : isOpen e = false) (h : EdgeOK fr pre e) :
    clipperBase_isContributingClosed (mkEng ct fr) e =
      ((inside fr (getPolyType e) pre != inside fr (getPolyType e) (pre ++ [e])) &&
        otherLets ct (getPolyType e) (inside fr (1 - getPolyType e) pre)) := by
  obtain ⟨_, ho, hv⟩ := edgeOK_features hfr hw hc h
  rw [contributing_eq ct fr e hfr, hv, ← ho]
  by_cases h0 : fr = 0
  · subst h0
    rw [ho, inside_snoc_EO (isClosedOf_self hc), Bool.bne_not_self]
    rfl
  · rw [beq_eq_false_iff_ne.2 h0, Bool.false_or]

theorem windRight_parity (q : Nat) {l : List Active} (hl : ∀ a ∈ l, WF a) :
    windRight q l % 2 = ((countClosed q l : Nat) : Int) % 2 := by
  induction l with
  | nil => rfl
  | cons a l ih =>
    obtain ⟨ha, hl⟩ := List.forall_mem_cons.1 hl
    have := ih hl
    have := ha.1
    rw [windRight_cons, countClosed_cons]
    split <;> omega

theorem inside_eq_filled {fr : Nat} (pt : Nat) {l : List Active} (hfr : fr ≤ 3) (hl : ∀ a ∈ l, WF a) :
    inside fr pt l = filled fr (windRight pt l) := by
  unfold inside kept
  by_cases h0 : fr = 0
  · rw [if_pos h0, h0, ← windRight_parity pt hl, engFilled_EO_mod]
  · rw [if_neg h0, engFilled_eq_filled fr _ (by omega)]

theorem contributes_iff_separates {ct fr : Nat} {pre : List Active} {e : Active}
    (hct : ct = 1 ∨ ct = 2 ∨ ct = 3 ∨ ct = 4) (hfr : fr ≤ 3) (hpre : ∀ a ∈ pre, WF a) (hw : WF e)
    (hc : isOpen e = false) (h : EdgeOK fr pre e) :
    clipperBase_isContributingClosed (mkEng ct fr) e =
      separates ct fr (getPolyType e)
        (min (windRight (getPolyType e) pre) (windRight (getPolyType e) pre + e.windDx))
        (windRight (1 - getPolyType e) pre) := by
  have hpre' : ∀ a ∈ pre ++ [e], WF a :=
    List.forall_mem_append.2 ⟨hpre, List.forall_mem_singleton.2 hw⟩
  rw [contributing_of_edgeOK ct hfr hw hc h, separates_eq fr _ _ hct hw.2,
    inside_eq_filled _ hfr hpre, inside_eq_filled _ hfr hpre,
    inside_eq_filled _ hfr hpre', windRight_append, windRight_single, if_pos (isClosedOf_self hc)]
  generalize windRight (getPolyType e) pre = W
  rcases hw.1 with hd | hd <;> rw [hd]
  · rw [show min W (W + 1) = W by omega]
  · rw [show min W (W + -1) = W + -1 by omega, Int.neg_add_cancel_right, bne_comm]

theorem inserted_edge_contributes_iff_separates (ct fr : Nat) (left : List Active) (e : Active)
    (hct : ct = 1 ∨ ct = 2 ∨ ct = 3 ∨ ct = 4) (hfr : fr = 1 ∨ fr = 2 ∨ fr = 3)
    (hwf : ∀ a ∈ left, WF a) (he : WF e) (hec : isOpen e = false)
    (h0 : e.windCount2 = 0) (hok : AelOK fr [] left) :
    clipperBase_isContributingClosed (mkEng ct fr) (setWindCountClosed fr left e) =
      separates ct fr (getPolyType e)
        (min (windRight (getPolyType e) left) (windRight (getPolyType e) left + e.windDx))
        (windRight (1 - getPolyType e) left) := by
  have hE := setWindCount_closed_correct fr left e hwf he hec h0 hok
  rw [setWindCountClosed_eq hwf he hec h0 hok] at hE ⊢
  exact contributes_iff_separates hct (by omega) hwf he hec hE

theorem fold_windRight (step : Int × Int → Active → Int × Int) (left : List Active)
    (hstep : ∀ x ∈ left, ∀ a b, step (a, b) x =
      (a + (if isClosedOf 0 x then x.windDx else 0), b + (if isClosedOf 1 x then x.windDx else 0)))
    (a b : Int) : left.foldl step (a, b) = (a + windRight 0 left, b + windRight 1 left) := by
  induction left generalizing a b with
  | nil => simp [windRight_nil]
  | cons x l ih =>
    obtain ⟨hx, hl⟩ := List.forall_mem_cons.1 hstep
    rw [List.foldl_cons, hx, ih hl, windRight_cons, windRight_cons, Int.add_assoc, Int.add_assoc]

theorem setWindCount_open_correct (fr : Nat) (left : List Active) (e : Active)
    (hfr : fr = 1 ∨ fr = 2 ∨ fr = 3) (hwf : ∀ a ∈ left, WF a)
    (hclip : ∀ a ∈ left, getPolyType a = 1 → isOpen a = false)
    (h0 : e.windCount = 0 ∧ e.windCount2 = 0) :
    (setWindCountOpen fr left e).windCount = windRight 0 left ∧
    (setWindCountOpen fr left e).windCount2 = windRight 1 left := by
  unfold setWindCountOpen
  rw [if_neg (by show ¬fr = 0; omega), h0.1, h0.2]
  dsimp only
  rw [fold_windRight _ left, Int.zero_add, Int.zero_add]
  · exact ⟨rfl, rfl⟩
  · intro x hx a b
    unfold isClosedOf
    rcases (hwf x hx).2 with h | h
    · cases ho : isOpen x <;> simp [h, C_Clip]
    · simp [h, hclip x hx h, C_Clip]

theorem setWindCount_open_correct_evenodd (left : List Active) (e : Active)
    (hwf : ∀ a ∈ left, WF a) (hclip : ∀ a ∈ left, getPolyType a = 1 → isOpen a = false) :
    (setWindCountOpen 0 left e).windCount = ((countClosed 0 left : Nat) : Int) % 2 ∧
    (setWindCountOpen 0 left e).windCount2 = ((countClosed 1 left : Nat) : Int) % 2 := by
  have f1 : left.filter (fun a => getPolyType a != C_Clip && !isOpen a) = left.filter (isClosedOf 0) :=
    List.filter_congr fun x hx => other_closed C_Clip (Or.inr rfl) (hwf x hx)
  have f2 : left.filter (fun a => getPolyType a == C_Clip) = left.filter (isClosedOf 1) := by
    apply List.filter_congr
    intro x hx
    unfold isClosedOf
    rcases (hwf x hx).2 with h | h
    · simp [h, C_Clip]
    · simp [h, C_Clip, hclip x hx h]
  unfold setWindCountOpen countClosed
  simp only [C_EvenOdd, if_true, f1, f2]
  constructor <;> split <;> omega

theorem inserted_open_edge_contributes_iff_keep (ct fr : Nat) (left : List Active) (e : Active)
    (hct : ct = 1 ∨ ct = 2 ∨ ct = 3) (hfr : fr = 1 ∨ fr = 2 ∨ fr = 3)
    (hwf : ∀ a ∈ left, WF a) (hclip : ∀ a ∈ left, getPolyType a = 1 → isOpen a = false)
    (h0 : e.windCount = 0 ∧ e.windCount2 = 0) :
    clipperBase_isContributingOpen (mkEng ct fr) (setWindCountOpen fr left e) =
      keepOpen ct fr (windRight 0 left) (windRight 1 left) := by
  obtain ⟨h1, h2⟩ := setWindCount_open_correct fr left e hfr hwf hclip h0
  rw [C09.contributingOpen_eq, h1, h2, C09.keepOpen_eq hct,
    engFilled_eq_filled fr _ hfr, engFilled_eq_filled fr _ hfr]

end Proofs.Wind
