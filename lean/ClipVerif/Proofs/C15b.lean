import ClipVerif.Proofs.C15
import ClipVerif.Proofs.Area
import Mathlib.Tactic.Ring
/-
C15b — the closed-path area theorem: `trimCollinear path false` preserves the exact doubled
shoelace sum whenever `isCollinear` is sound on the points of the path.  Every vertex that one of
the four loops drops is collinear with its two cyclic neighbours in the path as trimmed so far
(`cyc_erase term`); the loops differ only in where that vertex sits: at the head of the segment (front
skip), at its end (back skip, closing loop), or between what is kept and what is still to be read (main loop).
-/
namespace Proofs.C15b
open Gen Model Proofs.C15 Proofs.Chain

theorem term_self (a : Point64) : term a a = 0 := by simp [term]

theorem term_swap (a b : Point64) : term a b + term b a = 0 := by
  simp only [term]; ring

theorem term_cross (a b c : Point64) : term a b + term b c - term a c = crossZ a b c := by
  simp only [term, crossZ]; ring

theorem crossZ_swap12 (a b c : Point64) : crossZ b a c = - crossZ a b c := by
  simp only [crossZ]; ring

theorem term_of_cross {a b c : Point64} (h : crossZ a b c = 0) : term a b + term b c = term a c := by
  have := term_cross a b c; omega

theorem term_of_cross' {a b c : Point64} (h : crossZ b a c = 0) : term a b + term b c = term a c := by
  apply term_of_cross; have := crossZ_swap12 a b c; omega

theorem cyc_short (l : List Point64) (h : l.length ≤ 2) : cyc term l = 0 := by
  match l, h with
  | [], _ => rfl
  | [a], _ =>
    show term a a + 0 = 0
    rw [term_self]; rfl
  | [a, b], _ =>
    show term a b + (term b a + 0) = 0
    rw [Int.add_zero, term_swap]

section
variable (p : Array Point64)
  (hcol : ∀ a b c, a ∈ p.toList → b ∈ p.toList → c ∈ p.toList →
    isCollinear a b c = true → crossZ a b c = 0)
include hcol

theorem trimSkipFront_area (l i : Nat) (hl : l ≤ p.size) :
    cyc term (seg p (trimSkipFront p l i) l) = cyc term (seg p i l) := by
  fun_induction trimSkipFront p l i with
  | case1 i h hc ih =>
    have hz := hcol _ _ _ (Array.getElem!_mem_toList p (l-1) (by omega)) (Array.getElem!_mem_toList p i (by omega))
      (Array.getElem!_mem_toList p (i+1) (by omega)) hc
    obtain ⟨k, rfl⟩ : ∃ k, l = k + 1 := ⟨l - 1, by omega⟩
    rw [ih, seg_cons p i (k + 1) (by omega) hl]
    exact (cyc_erase term [] (seg p (i+1) (k+1)) (a := p[k]!) (term_of_cross hz)
      (ha := by rw [List.append_nil, seg_snoc p (i+1) k (by omega) (by omega)]; simp)
      (hc := by rw [List.append_nil, seg_cons p (i+1) (k+1) h hl]; rfl)).symm
  | case2 i h hc => rfl
  | case3 i h => rfl

theorem trimSkipBack_area (i l : Nat) (hl : l ≤ p.size) :
    cyc term (seg p i (trimSkipBack p i l)) = cyc term (seg p i l) := by
  fun_induction trimSkipBack p i l with
  | case1 l h hc ih =>
    have hz := hcol _ _ _ (Array.getElem!_mem_toList p (l-2) (by omega)) (Array.getElem!_mem_toList p (l-1) (by omega))
      (Array.getElem!_mem_toList p i (by omega)) hc
    obtain ⟨k, rfl⟩ : ∃ k, l = k + 2 := ⟨l - 2, by omega⟩
    have := cyc_erase term (seg p i (k + 1)) [] (a := p[k]!) (b := p[k+1]!) (term_of_cross hz)
      (ha := by rw [List.nil_append, seg_snoc p i k (by omega) (by omega)]; simp)
      (hc := by rw [List.nil_append, seg_cons p i (k+1) (by omega) (by omega)]; rfl)
    rw [ih (by omega)]
    show cyc term (seg p i (k + 1)) = cyc term (seg p i (k + 1 + 1))
    rw [seg_snoc p i (k + 1) (by omega) (by omega), this, List.append_nil]
  | case2 l h hc => rfl
  | case3 l h => rfl

theorem trimMain_area (l j : Nat) (last : Point64) (res : Array Point64) (hl : l ≤ p.size)
    (hj : j + 1 ≤ l) (hback : res.toList.getLast? = some last) (hlast : last ∈ p.toList) :
    cyc term ((trimMain p l j last res).2.toList ++ [p[l-1]!]) = cyc term (res.toList ++ seg p j l) := by
  fun_induction trimMain p l j last res with
  | case1 j last res h hc ih =>
    have hz := hcol _ _ _ hlast (Array.getElem!_mem_toList p j (by omega))
      (Array.getElem!_mem_toList p (j+1) (by omega)) hc
    rw [ih (by omega) hback hlast, seg_cons p j l (by omega) hl]
    exact (cyc_erase term res.toList (seg p (j+1) l) (term_of_cross hz)
      (ha := by rw [List.getLast?_append, hback]; rfl) (hc := by rw [seg_cons p (j+1) l h hl]; rfl)).symm
  | case2 j last res h hc ih =>
    rw [ih (by omega) (by simp) (Array.getElem!_mem_toList p j (by omega)), seg_cons p j l (by omega) hl]
    simp
  | case3 j last res h =>
    have : j = l - 1 := by omega
    subst this
    rw [seg_cons p (l-1) l (by omega) hl, seg, List.drop_eq_nil_of_le (by simp; omega)]

theorem trimClose_area (res : Array Point64) (hres : ∀ x, x ∈ res.toList → x ∈ p.toList) :
    cyc term (trimClose res).toList = cyc term res.toList := by
  fun_induction trimClose res with
  | case1 res h hc ih =>
    have hz := hcol _ _ _ (hres _ (Array.getElem!_mem_toList res (res.size-1) (by omega)))
      (hres _ (Array.getElem!_mem_toList res (res.size-2) (by omega)))
      (hres _ (Array.getElem!_mem_toList res 0 (by omega))) hc
    obtain ⟨k, hk⟩ : ∃ k, res.size = k + 2 := ⟨res.size - 2, by omega⟩
    simp only [hk, Nat.add_sub_cancel, show k + 2 - 1 = k + 1 by omega] at hz
    have hpop : res.pop.toList = seg res 0 (k + 1) := by
      simp [seg, List.dropLast_eq_take, hk]
    have hfull : res.toList = seg res 0 (k + 1) ++ [res[k+1]!] := by
      rw [← seg_full res, hk, seg_snoc res 0 (k + 1) (by omega) (by omega)]
    have := cyc_erase term (seg res 0 (k + 1)) [] (term_of_cross' hz)
      (ha := by rw [List.nil_append, seg_snoc res 0 k (by omega) (by omega)]; simp)
      (hc := by rw [List.nil_append, seg_cons res 0 (k+1) (by omega) (by omega)]; rfl)
    rw [ih fun x hx => hres x (by rw [hfull, ← hpop]; exact List.mem_append_left _ hx), hpop]
    conv => rhs; rw [hfull]
    rw [this, List.append_nil]
  | case2 res h hc => rfl
  | case3 res h => rfl

theorem trimTail_area (i l : Nat) (hlb : l ≤ p.size) :
    cyc term (trimTail p false i l).toList = cyc term (seg p i l) := by
  by_cases hil : l < i + 3
  · rw [trimTail_short p false hil, cyc_short (seg p i l) (by rw [seg_length _ _ _ hlb]; omega)]; rfl
  · obtain ⟨last, res, s, k⟩ := kept p i l hlb
    have hM : cyc term (res.toList ++ [p[l-1]!]) = cyc term (seg p i l) := by
      have := trimMain_area p hcol l (i+1) p[i]! #[p[i]!] hlb (by omega) (by simp)
        (Array.getElem!_mem_toList p i (by omega))
      rw [k.eq] at this
      rw [seg_cons p i l (by omega) hlb]
      exact this
    rw [trimTail_long (by omega) k]
    cases hcl : isCollinear last p[l-1]! res[0]!
    · rw [if_pos (Or.inr rfl), ← hM]; simp
    · -- the vertex `p[l-1]` is dropped, then the closing loop runs
      rw [if_neg (by decide)]
      have hmem : ∀ x, x ∈ res.toList → x ∈ p.toList := fun x hx =>
        ((List.sublist_append_left _ _).trans (k.frame hlb (by omega))).subset hx
      obtain ⟨ys, hys⟩ := Array.back?_eq_some_iff.mp k.back
      have h0 : 0 < res.size := by rw [hys]; simp
      have hz := hcol last p[l-1]! res[0]! (hmem _ (by rw [hys]; simp))
        (Array.getElem!_mem_toList p (l-1) (by omega)) (hmem _ (Array.getElem!_mem_toList res 0 h0)) hcl
      have hR := cyc_erase term res.toList [] (term_of_cross hz)
        (ha := by rw [List.nil_append, hys]; simp)
        (hc := by rw [List.nil_append, ← seg_full res, seg_cons res 0 res.size h0 (Nat.le_refl _)]; rfl)
      rw [← hM, hR, List.append_nil, ← trimClose_area p hcol res hmem]
      split
      · next hsz =>
        rw [cyc_short (trimClose res).toList (by simpa using Nat.le_of_lt_succ hsz)]; rfl
      · rfl

end

theorem trim_closed_area_partial (path : Array Point64)
    (hcol : ∀ a b c, a ∈ path.toList → b ∈ path.toList → c ∈ path.toList →
      isCollinear a b c = true → crossZ a b c = 0) :
    Spec.area2 (pathToI (trimCollinear path false).toList) = Spec.area2 (pathToI path.toList) := by
  rw [area2_eq, area2_eq, trimCollinear_eq, if_neg (by decide),
    trimTail_area path hcol _ _ (skipBack_bound path _ path.size).1,
    trimSkipBack_area path hcol _ path.size (Nat.le_refl _), trimSkipFront_area path hcol path.size 0 (Nat.le_refl _), seg_full]

end Proofs.C15b
