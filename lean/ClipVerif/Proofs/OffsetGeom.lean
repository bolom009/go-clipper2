import ClipVerif.Model.OffsetGeom
/-
How many points the joins of `Model.OffsetGeom` emit.  Nothing is said about the float values: the conditions on
them are carried along unopened.
-/
namespace Proofs.OffsetGeom
open Gen Model

theorem doMiter_len (c : OffCfg) (path : Array Point64) (normals : Array PointD) (j k : Nat) (x : Float) :
    (doMiter c path normals j k x).length = 1 := rfl

theorem doBevel_len (c : OffCfg) (path : Array Point64) (normals : Array PointD) (j k : Nat) :
    (doBevel c path normals j k).length = 2 := by unfold doBevel; split <;> rfl

theorem doSquare_len (c : OffCfg) (path : Array Point64) (normals : Array PointD) (j k : Nat) :
    (doSquare c path normals j k).length = 2 := by unfold doSquare; dsimp only; split <;> rfl

theorem offsetPoint_len (c : OffCfg) (path : Array Point64) (normals : Array PointD) (j k : Nat) :
    (offsetPoint c path normals j k).1.length ≤ 3 := by
  let P (r : List Point64 × Nat) : Prop := r.1.length ≤ 3
  have hM (x : Float) : P (doMiter c path normals j k x, j) := by
    show _ ≤ 3; rw [doMiter_len]; decide
  have hS : P (doSquare c path normals j k, j) := by
    show _ ≤ 3; rw [doSquare_len]; decide
  have hB : P (doBevel c path normals j k, j) := by
    show _ ≤ 3; rw [doBevel_len]; decide
  unfold offsetPoint
  -- one `iteInduction` per `if` of `offsetPoint`, in its order: repeated vertex, zero delta, concave
  -- corner, almost straight; `split` would abstract the float conditions each time, which is slow
  refine iteInduction (motive := P) (fun _ => Nat.zero_le 3) fun _ => ?_
  refine iteInduction (motive := P) (fun _ => Nat.le_succ_of_le (Nat.le_succ 1)) fun _ => ?_
  refine iteInduction (motive := P) (fun _ => Nat.le_refl 3) fun _ => ?_
  refine iteInduction (motive := P) (fun _ => hM _) fun _ => ?_
  split
  · exact iteInduction (motive := P) (fun _ => hM _) fun _ => hS
  · exact hB
  · exact hS

theorem fold_len (c : OffCfg) (path : Array Point64) (normals : Array PointD) (l : List Nat) (acc : List Point64) (k : Nat) :
    ((l.foldl (fun (st : List Point64 × Nat) i =>
      let (pts, k') := offsetPoint c path normals i st.2
      (st.1 ++ pts, k')) (acc, k)).1).length ≤ acc.length + 3 * l.length := by
  induction l generalizing acc k with
  | nil => simp
  | cons i l ih =>
    simp only [List.foldl_cons, List.length_cons]
    have h := offsetPoint_len c path normals i k
    have := ih (acc ++ (offsetPoint c path normals i k).1) (offsetPoint c path normals i k).2
    simp only [List.length_append] at this
    omega

end Proofs.OffsetGeom
