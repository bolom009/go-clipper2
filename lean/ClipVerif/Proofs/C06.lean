import ClipVerif.Proofs.Bounds
import ClipVerif.Proofs.Arith
/- The rectangle tests of the rectangle clipper: `getLocation` (on the boundary, or on which side), the
   cyclic order of the four sides (`getAdjacentLocation`, `areOpposites`), the edge bits of `getEdgesForPt`,
   and the two tests on the bounds of a path (`Rect64_Contains`, `Rect64_Intersects`), read off
   `Proofs.C14.getBounds_exact`.  `Proofs.C03b` at the end: a path with every vertex on the boundary passes
   the contains test, so the fault of `executePoly` (`Proofs.Rect.executePoly_fault_iff`) is not reached. -/
namespace Proofs.C06
open Gen Proofs.Arith

theorem getLocation_on_boundary (r : Rect64) (p : Point64) :
    (getLocation r p).2 = false ↔
      ((p.X = r.left ∨ p.X = r.right) ∧ r.top ≤ p.Y ∧ p.Y ≤ r.bottom) ∨
      ((p.Y = r.top ∨ p.Y = r.bottom) ∧ r.left ≤ p.X ∧ p.X ≤ r.right) := by
  unfold getLocation
  simp only [Id.run, pure, ge_iff_le, Bool.and_eq_true, decide_eq_true_eq]
  -- the four tests for a side come first, each answers `false`; what follows answers `true`
  simp only [apply_ite Prod.snd, ite_self, ite_eq_left_iff, Bool.true_eq_false, imp_false]
  -- so one of the four holds; both sides as a disjunction of four conjunctions
  simp only [← Decidable.or_iff_not_imp_left, Decidable.not_not, or_and_right, and_assoc, or_assoc]

theorem getLocation_fst (r : Rect64) (p : Point64) (hb : (getLocation r p).2 = true) :
    (getLocation r p).1 = if p.X < r.left then C_Left else if p.X > r.right then C_Right
      else if p.Y < r.top then C_Top else if p.Y > r.bottom then C_Bottom else C_Inside := by
  unfold getLocation at hb ⊢
  simp only [Id.run, pure, Bool.and_eq_true, decide_eq_true_eq, apply_ite Prod.snd,
    apply_ite Prod.fst, ite_self] at hb ⊢
  -- none of the four tests for a side holds, they would have answered `false`
  simp only [Bool.if_false_left, Bool.and_eq_true, Bool.not_eq_true', decide_eq_false_iff_not,
    and_true] at hb
  rw [if_neg hb.1, if_neg hb.2.1, if_neg hb.2.2.1, if_neg hb.2.2.2]

theorem getLocation_off_boundary (r : Rect64) (p : Point64)
    (hb : (getLocation r p).2 = true) :
    ((getLocation r p).1 = 4 ↔ (r.left < p.X ∧ p.X < r.right ∧ r.top < p.Y ∧ p.Y < r.bottom)) ∧
    ((getLocation r p).1 = 0 → p.X < r.left) ∧ ((getLocation r p).1 = 2 → p.X > r.right) ∧
    ((getLocation r p).1 = 1 → p.Y < r.top) ∧ ((getLocation r p).1 = 3 → p.Y > r.bottom) ∧
    (0 ≤ (getLocation r p).1 ∧ (getLocation r p).1 ≤ 4) := by
  -- off the boundary (`hnb`) the five answers are told apart by arithmetic
  have hnb := mt (getLocation_on_boundary r p).2 (by rw [hb]; exact Bool.noConfusion)
  rw [getLocation_fst r p hb]
  simp only [C_Left, C_Right, C_Top, C_Bottom, C_Inside, gt_iff_lt, Int64.lt_iff_toInt_lt,
    Int64.le_iff_toInt_le, ← Int64.toInt_inj] at hnb ⊢
  omega

theorem getLocation_inRect (r : Rect64) (p : Point64) (hw : r.left ≤ r.right ∧ r.top ≤ r.bottom)
    (h : (getLocation r p).2 = false ∨ (getLocation r p).1 = C_Inside) :
    r.left ≤ p.X ∧ p.X ≤ r.right ∧ r.top ≤ p.Y ∧ p.Y ≤ r.bottom := by
  cases hf : (getLocation r p).2
  · have hb := (getLocation_on_boundary r p).1 hf
    simp only [Int64.le_iff_toInt_le, ← Int64.toInt_inj] at hw hb ⊢
    omega
  · have hi := (getLocation_off_boundary r p hf).1.1 (h.resolve_left (by rw [hf]; exact Bool.noConfusion))
    simp only [Int64.lt_iff_toInt_lt, Int64.le_iff_toInt_le] at hi ⊢
    omega

theorem adjacent_location_cycle (loc : Int) (h : 0 ≤ loc ∧ loc ≤ 3) :
    getAdjacentLocation (getAdjacentLocation loc true) false = loc ∧
    getAdjacentLocation (getAdjacentLocation loc false) true = loc ∧
    headingClockwise loc (getAdjacentLocation loc true) = true ∧
    headingClockwise loc (getAdjacentLocation loc false) = false ∧
    (0 ≤ getAdjacentLocation loc true ∧ getAdjacentLocation loc true ≤ 3) := by
  obtain ⟨h0, h3⟩ := h
  have : loc = 0 ∨ loc = 1 ∨ loc = 2 ∨ loc = 3 := by omega
  rcases this with rfl | rfl | rfl | rfl <;> decide

theorem areOpposites_iff (a b : Int) (ha : 0 ≤ a ∧ a ≤ 4) (hb : 0 ≤ b ∧ b ≤ 4) :
    areOpposites a b = true ↔ (a - b = 2 ∨ b - a = 2) := by
  unfold areOpposites
  simp only [Id.run, pure, decide_eq_true_eq]
  rw [abs_ofInt, round53Nat_id (by omega)]
  show ((a - b).natAbs : Int) = 2 ↔ _
  omega

theorem getEdgesForPt_spec (p : Point64) (r : Rect64) (h : r.left < r.right ∧ r.top < r.bottom) :
    (getEdgesForPt p r % 2 = 1 ↔ p.X = r.left) ∧ (getEdgesForPt p r / 2 % 2 = 1 ↔ p.Y = r.top) ∧
    (getEdgesForPt p r / 4 % 2 = 1 ↔ p.X = r.right) ∧ (getEdgesForPt p r / 8 % 2 = 1 ↔ p.Y = r.bottom) := by
  unfold getEdgesForPt
  simp only [Id.run, pure, decide_eq_true_eq]
  -- the four bits leaf by leaf: bit 0 is `if p.X = r.left then 1 else 0`, bit 2 is
  -- `if p.X = r.left then 0 else if p.X = r.right then 1 else 0`, likewise bits 1 and 3 for `Y`
  simp only [apply_ite (· % 2), apply_ite (· / 2), apply_ite (· / 4), apply_ite (· / 8),
    Nat.reduceAdd, Nat.reduceDiv, Nat.reduceMod, ite_self]
  simp only [Int64.lt_iff_toInt_lt, ← Int64.toInt_inj] at h ⊢
  refine ⟨?_, ?_, ?_, ?_⟩ <;> repeat' split
  all_goals omega

theorem contains_bounds_iff (r : Rect64) (path : List Point64) (hne : path ≠ []) :
    Rect64_Contains r (getBounds path) = true ↔
      ∀ p ∈ path, r.left ≤ p.X ∧ p.X ≤ r.right ∧ r.top ≤ p.Y ∧ p.Y ≤ r.bottom := by
  obtain ⟨hall, ⟨p1, hp1, e1⟩, ⟨p2, hp2, e2⟩, ⟨p3, hp3, e3⟩, ⟨p4, hp4, e4⟩⟩ :=
    Proofs.C14.getBounds_exact path hne
  unfold Rect64_Contains
  simp only [Id.run, pure, ge_iff_le, Bool.and_eq_true, decide_eq_true_eq]
  constructor
  · intro hc p hp
    have := hall p hp
    simp only [Int64.le_iff_toInt_le] at hc this ⊢
    omega
  · intro h
    rw [← e1, ← e2, ← e3, ← e4]
    exact ⟨⟨⟨(h p1 hp1).1, (h p2 hp2).2.1⟩, (h p3 hp3).2.2.1⟩, (h p4 hp4).2.2.2⟩

theorem contains_bounds_all_inside (r : Rect64) (path : List Point64) (hne : path ≠ [])
    (hc : Rect64_Contains r (getBounds path) = true) :
    ∀ p ∈ path, r.left ≤ p.X ∧ p.X ≤ r.right ∧ r.top ≤ p.Y ∧ p.Y ≤ r.bottom :=
  (contains_bounds_iff r path hne).1 hc

theorem not_intersects_all_outside (r : Rect64) (path : List Point64) (hne : path ≠ [])
    (h : r.left ≤ r.right ∧ r.top ≤ r.bottom)
    (hc : Rect64_Intersects r (getBounds path) = false) :
    (∀ p ∈ path, p.X < r.left) ∨ (∀ p ∈ path, p.X > r.right) ∨ (∀ p ∈ path, p.Y < r.top) ∨
      (∀ p ∈ path, p.Y > r.bottom) := by
  obtain ⟨hall, ⟨q, hq, _⟩, _⟩ := Proofs.C14.getBounds_exact path hne
  unfold Rect64_Intersects at hc
  simp only [Id.run, pure, Bool.and_eq_false_iff, decide_eq_false_iff_not, max_toInt, min_toInt,
    gt_iff_lt, Int64.lt_iff_toInt_lt, Int64.le_iff_toInt_le] at hc h hall ⊢
  -- the bounds hold `q`, so they are not empty and lie beyond one side as a whole
  have hq := hall q hq
  rcases hc with hc | hc
  · by_cases hl : (getBounds path).right.toInt < r.left.toInt
    · exact Or.inl fun p hp => by have := hall p hp; omega
    · exact Or.inr (Or.inl fun p hp => by have := hall p hp; omega)
  · by_cases hl : (getBounds path).bottom.toInt < r.top.toInt
    · exact Or.inr (Or.inr (Or.inl fun p hp => by have := hall p hp; omega))
    · exact Or.inr (Or.inr (Or.inr fun p hp => by have := hall p hp; omega))

theorem isEmpty_iff (r : Rect64) : Rect64_IsEmpty r = true ↔ (r.bottom ≤ r.top ∨ r.right ≤ r.left) := by
  unfold Rect64_IsEmpty
  simp only [Id.run, pure, Bool.or_eq_true, decide_eq_true_eq]

end Proofs.C06

namespace Proofs.C03b
open Gen

theorem rectclip_fault_unreachable (rect : Rect64) (path : List Point64) (hne : path ≠ [])
    (hr : rect.left ≤ rect.right ∧ rect.top ≤ rect.bottom)
    (hall : ∀ p ∈ path, (getLocation rect p).2 = false) :
    Rect64_Contains rect (getBounds path) = true :=
  (Proofs.C06.contains_bounds_iff rect path hne).2 fun p hp =>
    Proofs.C06.getLocation_inRect rect p hr (Or.inl (hall p hp))

end Proofs.C03b
