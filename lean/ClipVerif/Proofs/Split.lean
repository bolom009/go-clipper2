import ClipVerif.Model.Split
import ClipVerif.Proofs.Basic
import ClipVerif.Proofs.Arith
/-
`Model.Split` (self-intersection repair of output rings).  One invariant of the repair loop (`fix_inv`),
generic in what holds of the points a ring keeps (`P`) and of the records the repair creates (`Q`): where
the points come from and that new records are triangles are two instances.  A ring none of whose segments
meets the next but one goes through unchanged (`fix_leaves_clean_rings_alone`).
-/
namespace Proofs.Split
open Gen Model

theorem doSplitOp_some (a b c d : Point64) (rest m : List Point64) (t : Option (List Point64))
    (h : doSplitOp a b c d rest = (some m, t)) :
    m = (if (getSegmentIntersectPt a b c d).1 == a || (getSegmentIntersectPt a b c d).1 == d
          then a :: d :: rest else a :: (getSegmentIntersectPt a b c d).1 :: d :: rest) ∧
    (t = none ∨ t = some [(getSegmentIntersectPt a b c d).1, b, c]) := by
  unfold doSplitOp at h
  simp only [] at h
  split at h
  · cases h
  · -- both results keep the same ring: the `if` only chooses the second component
    rw [← apply_ite (Prod.mk _), Prod.mk.injEq, Option.some.injEq] at h
    obtain ⟨rfl, rfl⟩ := h
    exact ⟨rfl, (ite_eq_or_eq _ _ _).symm⟩

theorem split_shortens (a b c d : Point64) (rest m : List Point64) (t : Option (List Point64))
    (h : doSplitOp a b c d rest = (some m, t)) :
    m.length + 1 ≤ rest.length + 4 ∧ rest.length + 2 ≤ m.length := by
  rw [(doSplitOp_some a b c d rest m t h).1]
  split <;> simp

theorem segsIntersect_same (a : Point64) : segsIntersect a a a a false = false := by
  simp [segsIntersect, CrossProduct, Id.run, F.ofInt64, F.mulSign, (Proofs.Arith.round53_sign 0).1.2 rfl, pure]

/- The equations of `fixLoop`.  Lean cannot derive them on demand (`rw [fixLoop]`, `cases` on
   `fixLoop 0 s = some _` and a bare `rfl` all run out of heartbeats in `whnf`), so they are stated here. -/
theorem fixLoop_zero (s : FixState) : fixLoop 0 s = none := by delta fixLoop; rfl

theorem fixLoop_succ (f : Nat) (s : FixState) :
    fixLoop (f + 1) s = match fixStep s with
      | .done r nw => some (r, nw)
      | .more s' => fixLoop f s' := by delta fixLoop; rfl

theorem fixStep_nil (i : Nat) (news : List (List Point64)) :
    fixStep { ring := [], i := i, news := news } = .more { ring := [], i := i + 1, news := news } := by
  simp [fixStep, segsIntersect_same]

/-- every point of a ring the repair keeps is `P`, every record it has created is `Q` -/
def AllFrom (P : Point64 → Prop) (Q : List Point64 → Prop) (r : Option (List Point64)) (nw : List (List Point64)) :
    Prop :=
  (∀ r' ∈ r, ∀ q ∈ r', P q) ∧ (∀ t ∈ nw, Q t)

inductive Post (P : Point64 → Prop) (Q : List Point64 → Prop) : FixStep → Prop
  | done {r nw} : AllFrom P Q r nw → Post P Q (.done r nw)
  | more {s'} : AllFrom P Q (some s'.ring) s'.news → Post P Q (.more s')

section
variable {P : Point64 → Prop} {Q : List Point64 → Prop} {r : List Point64} {nw : List (List Point64)}

theorem allFrom_some (hr : ∀ q ∈ r, P q) (hn : ∀ t ∈ nw, Q t) : AllFrom P Q (some r) nw :=
  ⟨fun _ h => Option.mem_some.1 h ▸ hr, hn⟩

/-- the way every branch of `fixStep` ends: stop with the ring, or go on with it -/
theorem post_ite (c : Prop) [Decidable c] (i : Nat) (hr : ∀ q ∈ r, P q) (hn : ∀ t ∈ nw, Q t) :
    Post P Q (if c then .done (some r) nw else .more { ring := r, i := i, news := nw }) := by
  split
  · exact .done (allFrom_some hr hn)
  · exact .more (allFrom_some hr hn)

variable (hP : ∀ a b c d, P a → P b → P c → P d → P (getSegmentIntersectPt a b c d).1)
  (hQ : ∀ x b c, P x → P b → P c → Q [x, b, c])
include hP hQ

theorem fixStep_inv {s : FixState} (hs : AllFrom P Q (some s.ring) s.news) : Post P Q (fixStep s) := by
  rcases s with ⟨ring, i, news⟩
  have hring : ∀ q ∈ ring, P q := hs.1 _ rfl
  have hnews : ∀ t ∈ news, Q t := hs.2
  by_cases hne : ring = []
  · subst hne
    rw [fixStep_nil]
    exact .more hs
  have hnth : ∀ j, P (ring.toArray[j % ring.toArray.size]!) :=
    fun j => hring _ (Array.getElem!_mem_toList ring.toArray _ (Nat.mod_lt j (List.length_pos_iff.2 hne)))
  unfold fixStep
  simp only []
  refine iteInduction (motive := Post P Q) (fun _ => ?_) (fun _ => ?_)
  · refine iteInduction (motive := Post P Q) (fun _ => ?_) (fun _ => ?_)
    · -- micro shortcut: a point of the ring is inserted
      refine post_ite _ _ ?_ hnews
      split
      · exact List.forall_mem_append.2 ⟨hring, List.forall_mem_singleton.2 (hnth _)⟩
      · exact List.forall_mem_append.2 ⟨fun q h => hring q (List.mem_of_mem_take h),
          List.forall_mem_cons.2 ⟨hnth _, fun q h => hring q (List.mem_of_mem_drop h)⟩⟩
    · generalize hrot : ring.rotateLeft ((i + ring.toArray.size - 1) % ring.toArray.size) = rot
      have hrotP : ∀ q ∈ rot, P q := fun q hq => hring q ((List.rotateLeft_perm ring _).subset (hrot ▸ hq))
      split
      · next a b c d rest =>
        -- split: the ring keeps some of its points and may gain the intersection point
        obtain ⟨pa, pb, pc, pd, prest⟩ :
            P a ∧ P b ∧ P c ∧ P d ∧ ∀ q ∈ rest, P q := by
          simpa only [List.forall_mem_cons] using hrotP
        have hip := hP a b c d pa pb pc pd
        split
        · exact .done ⟨fun _ h => absurd h (by simp), hnews⟩
        · next main nw hds =>
          obtain ⟨hm, hnw⟩ := doSplitOp_some _ _ _ _ _ _ _ hds
          refine post_ite _ _ ?_ ?_
          · rw [hm]
            split
            · simpa only [List.forall_mem_cons] using And.intro pa (And.intro pd prest)
            · simpa only [List.forall_mem_cons] using And.intro pa (And.intro hip (And.intro pd prest))
          · rcases hnw with rfl | rfl
            · exact hnews
            · intro t ht
              rcases List.mem_append.1 ht with h | h
              · exact hnews t h
              · rw [List.mem_singleton.1 h]; exact hQ _ _ _ hip pb pc
      · exact .done hs
  · exact post_ite _ _ hring hnews

theorem fixLoop_inv {fuel : Nat} {s : FixState} (hs : AllFrom P Q (some s.ring) s.news)
    {main : Option (List Point64)} {nw : List (List Point64)}
    (h : fixLoop fuel s = some (main, nw)) : AllFrom P Q main nw := by
  induction fuel generalizing s with
  | zero => rw [fixLoop_zero] at h; cases h
  | succ f ih =>
    have hstep := fixStep_inv hP hQ hs
    rw [fixLoop_succ] at h
    generalize fixStep s = st at h hstep
    cases hstep with
    | done hg => cases h; exact hg
    | more hg => exact ih hg h

theorem fix_inv {ring : List Point64} (h : ∀ q ∈ ring, P q) {main : Option (List Point64)}
    {news : List (List Point64)} (hr : fixSelfIntersects ring = some (main, news)) : AllFrom P Q main news := by
  have h0 : AllFrom P Q (some ring) [] := allFrom_some h (fun _ ht => absurd ht List.not_mem_nil)
  unfold fixSelfIntersects at hr
  split at hr
  · cases hr
    exact h0
  · exact fixLoop_inv hP hQ h0 hr

end

theorem fix_provenance (P : Point64 → Prop)
    (hP : ∀ a b c d, P a → P b → P c → P d → P (getSegmentIntersectPt a b c d).1)
    (ring : List Point64)
    (h : ∀ q ∈ ring, P q) (main : Option (List Point64)) (news : List (List Point64))
    (hr : fixSelfIntersects ring = some (main, news)) :
    (∀ r, main = some r → ∀ q ∈ r, P q) ∧ (∀ t ∈ news, ∀ q ∈ t, P q) :=
  fix_inv (Q := fun t => ∀ q ∈ t, P q) hP (fun _ _ _ hx hb hc => List.forall_mem_cons.2
    ⟨hx, List.forall_mem_cons.2 ⟨hb, List.forall_mem_singleton.2 hc⟩⟩) h hr

theorem fix_new_records_are_triangles (ring : List Point64) (main : Option (List Point64))
    (news : List (List Point64)) (hr : fixSelfIntersects ring = some (main, news)) :
    ∀ t ∈ news, t.length = 3 :=
  (fix_inv (P := fun _ => True) (Q := fun t => t.length = 3) (fun _ _ _ _ _ _ _ _ => trivial)
    (fun _ _ _ _ _ _ => rfl) (fun _ _ => trivial) hr).2

theorem fixStep_clean (ring : List Point64) (i : Nat) (news : List (List Point64))
    (hi : i < ring.length)
    (hc : segsIntersect ring.toArray[(i + ring.length - 1) % ring.length]! ring.toArray[i]!
        ring.toArray[(i + 1) % ring.length]! ring.toArray[(i + 2) % ring.length]! false = false) :
    fixStep { ring := ring, i := i, news := news } =
      if (i + 1) % ring.length = 0 then .done (some ring) news
      else .more { ring := ring, i := (i + 1) % ring.length, news := news } := by
  unfold fixStep
  simp only [List.size_toArray, Nat.add_zero, Nat.mod_eq_of_lt hi]
  rw [show i + (ring.length - 1) = i + ring.length - 1 by omega, hc]
  simp only [Bool.false_eq_true, if_false]

theorem fixLoop_clean (ring : List Point64)
    (hclean : ∀ i, i < ring.length →
      segsIntersect ring.toArray[(i + ring.length - 1) % ring.length]! ring.toArray[i]!
        ring.toArray[(i + 1) % ring.length]! ring.toArray[(i + 2) % ring.length]! false = false)
    (fuel i : Nat) (hi : i < ring.length) (hf : ring.length - i ≤ fuel) :
    fixLoop fuel { ring := ring, i := i, news := [] } = some (some ring, []) := by
  induction fuel generalizing i with
  | zero => omega
  | succ f ih =>
    rw [fixLoop_succ, fixStep_clean ring i [] hi (hclean i hi)]
    by_cases hlast : i + 1 = ring.length
    · rw [if_pos (by rw [hlast]; exact Nat.mod_self _)]
    · have hlt : i + 1 < ring.length := by omega
      rw [Nat.mod_eq_of_lt hlt, if_neg (by omega)]
      exact ih (i + 1) hlt (by omega)

theorem fix_leaves_clean_rings_alone (ring : List Point64) (hne : ring ≠ [])
    (hclean : ∀ i, i < ring.length →
      segsIntersect ring.toArray[(i + ring.length - 1) % ring.length]! ring.toArray[i]!
        ring.toArray[(i + 1) % ring.length]! ring.toArray[(i + 2) % ring.length]! false = false) :
    fixSelfIntersects ring = some (some ring, []) := by
  have hpos : 0 < ring.length := List.length_pos_iff.mpr hne
  unfold fixSelfIntersects
  split
  · rfl
  · exact fixLoop_clean ring hclean _ 0 hpos (by omega)

end Proofs.Split
